/-
Composition across properties (built by `./check --setup` with the rest of the library; no property check depends on it, so that
a change which breaks one property is not reported under another one's name).

C02 ∘ C05: the ridge system end to end over the regenerated code of both the kernel matrix and the solver.
-/
import Xrfmv.Props.C02
import Xrfmv.Props.C05

namespace Xrfmv.Compose
open Xrfmv Xrfmv.Kernel Xrfmv.Props.C02 Matrix

/-- The Gram matrix `self.kernel(centers, centers)` as the *regenerated* chain of tensor operations of the kernel class computes it
(`Gen.KernelOps`, C05). -/
noncomputable def gramGen (K : Spec ℝ) (T : Transform ℝ) {d k : ℕ} (xs : Fin k → Fin d → ℝ) : Matrix (Fin k) (Fin k) ℝ :=
  Matrix.of fun i j => KernelOps.genEntry K T (List.ofFn (xs i)) (List.ofFn (xs j))

theorem gramGen_eq_gram {K : Spec ℝ} (hK : Props.C05.Valid K) (hs : K.isSumPower = false) (T : Transform ℝ) {d k : ℕ}
    (xs : Fin k → Fin d → ℝ) : gramGen K T xs = gram K T xs := by
  rw [gramGen, Props.C05.genEntry_eq hK hs, gram]

/-- **C02 end to end over the regenerated code (Lp/Lq Laplace family).**  Take the kernel matrix as the regenerated chain of
`_get_kernel_matrix_impl` computes it and the solver plan as regenerated from `fit_predictor_lstsq`; model `torch.linalg` as an
exact solve (`hsol`).  Then for every centers (repeated ones included), transform, `0 < q ≤ p ≤ 2`, `L > 0`, `reg > 0` and targets,
the coefficients every solver branch returns are *the* solution of `(K + reg·I) α = Y` with `K` the closed-form Gram matrix of the
stored centers — there is exactly one, and `solve`, `cholesky` and `lu` return it. -/
theorem gen_fit_predictor_returns_the_ridge_solution_lpq {p q L : ℝ} (hq : 0 < q) (hqp : q ≤ p) (hp2 : p ≤ 2) (hL : 0 < L)
    (T : Transform ℝ) {d k c : ℕ} (xs : Fin k → Fin d → ℝ) (reg : ℝ) (hreg : 0 < reg) (Y : Matrix (Fin k) (Fin c) ℝ)
    (sol : String → Matrix (Fin k) (Fin c) ℝ)
    (hsol : ∀ b ∈ Gen.Ridge.plan.branches, ∀ A R,
      Ridge.systemOf Gen.Ridge.plan b (gramGen (.lpq p q L) T xs) reg Y = some (A, R) → A * sol b.name = R) :
    ∀ b ∈ Gen.Ridge.plan.branches,
      (gram (.lpq p q L) T xs + reg • (1 : Matrix (Fin k) (Fin k) ℝ)) * sol b.name = Y ∧
      ∀ A : Matrix (Fin k) (Fin c) ℝ, (gram (.lpq p q L) T xs + reg • (1 : Matrix (Fin k) (Fin k) ℝ)) * A = Y → A = sol b.name := by
  rw [gramGen_eq_gram (K := .lpq p q L) ⟨hL, hq, hq.trans_le hqp⟩ rfl] at hsol
  have hK := gram_lpq_posSemidef hq hqp hp2 hL T xs
  intro b hb
  have h := (gen_solvers_return_the_ridge_solution _ hK reg hreg Y sol hsol b hb b hb).1
  exact ⟨h, fun A hA => ridge_unique_matrix _ hK reg hreg A _ Y hA h⟩

end Xrfmv.Compose

#print axioms Xrfmv.Compose.gen_fit_predictor_returns_the_ridge_solution_lpq
