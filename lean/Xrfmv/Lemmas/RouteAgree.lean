/- Lemmas for C08: the rank split and the `≤ median` routing rule agree off ties, at one node and along the whole
route; the per-node contracts also make the construction succeed. -/
import Xrfmv.Model.RouteAgree
import Xrfmv.Lemmas.BuildIndex
-- Not needed to compile, but it decides how statements elaborate: with it, `≤` / `<` on `[LinearOrder α]` in `goesLeft_iff`,
-- `node_agree` and the C08 statements (the `LE α`, `LT α`, `Decidable…` arguments of `Gen.Route.goesLeft`) are found through
-- `instDistribLatticeOfLinearOrder`, without it through `LinearOrder.toPartialOrder`.  The C08 statements are meant in the
-- first form; dropping this import, or importing more order theory upstream, changes them without any error.
import Mathlib.Order.Lattice

namespace Xrfmv.RouteAgree
open Xrfmv.BuildIndex Xrfmv.Gen.Split Xrfmv.Gen.Route

variable {α : Type} [LinearOrder α]

/-- Contract of `torch.sort` + `torch.median` at one node: `sorted` is a permutation of the positions
`0..n-1` that orders the projections ascending, and the threshold is the lower median
`proj(sorted[(n-1)/2])`. -/
structure NodeContract (n : Nat) (proj : Nat → α) (sorted : List Nat) (thr : α) : Prop where
  perm : IsPermOfRange sorted n
  asc : ∀ a b, a ≤ b → b < n → proj (sorted.getD a 0) ≤ proj (sorted.getD b 0)
  med : thr = proj (sorted.getD ((n - 1) / 2) 0)

theorem goesLeft_iff (a b : α) : goesLeft a b = true ↔ a ≤ b := by
  simp [goesLeft]

theorem node_agree (n : Nat) (r : Int) (proj : Nat → α) (sorted : List Nat) (thr : α)
    (hc : NodeContract n proj sorted thr) (i : Nat) (hi : i < n) (hne : proj i ≠ thr) :
    (goesLeft (proj i) thr = true → sideMask n sorted r .left i = true) ∧
    (goesLeft (proj i) thr = false → sideMask n sorted r .right i = true) := by
  have hn := hc.perm.length
  -- `i` has some rank `k`; ranks up to the median rank project `≤ thr`, ranks from it on project `≥ thr`
  obtain ⟨k, hk, hki⟩ := List.mem_iff_getElem.mp ((hc.perm.mem i).mpr hi)
  have hgetD : sorted.getD k 0 = i := getD_of_getElem? (hki ▸ List.getElem?_eq_getElem hk) 0
  have hmn : (n - 1) / 2 < n := Nat.lt_of_le_of_lt (Nat.div_le_self _ _) (Nat.sub_one_lt (Nat.ne_zero_of_lt hi))
  have hlo : k ≤ (n - 1) / 2 → proj i ≤ thr := fun h => by
    have := hc.asc k ((n - 1) / 2) h hmn; rwa [hgetD, ← hc.med] at this
  have hhi : (n - 1) / 2 ≤ k → thr ≤ proj i := fun h => by
    have := hc.asc ((n - 1) / 2) k h (hn ▸ hk); rwa [hgetD, ← hc.med] at this
  obtain ⟨hmL, hRm⟩ := BuildSizes.median_rank n r (Nat.zero_lt_of_lt hi)
  simp only [← Bool.not_eq_true, goesLeft_iff, not_le, sideMask_left, sideMask_right]
  constructor
  · intro hle
    have : k < (n - 1) / 2 := Nat.lt_of_not_le fun h => (lt_of_le_of_ne hle hne).not_ge (hhi h)
    exact List.mem_take_iff_getElem.mpr ⟨k, Nat.lt_min.mpr ⟨Nat.lt_trans this hmL, hk⟩, hki⟩
  · intro hgt
    have : (n - 1) / 2 < k := Nat.lt_of_not_le fun h => hgt.not_ge (hlo h)
    refine List.drop_subset_drop_left sorted (Nat.le_trans hRm this) ?_
    rw [List.drop_eq_getElem_cons hk, hki]
    exact List.mem_cons_self

/-- The sample's projection is not tied with the threshold at any node on its predicted route. -/
def Untied (P : ProjOracles α) : ITree → List Bool → Nat → Prop
  | .node l r, path, x =>
      P.projO path x ≠ P.thrO path ∧
      (if goesLeft (P.projO path x) (P.thrO path) then Untied P l (path ++ [false]) x
       else Untied P r (path ++ [true]) x)
  | _, _, _ => True

/-- The sort/median contract holds at every split node the construction reaches, and every split keeps
at least two unshared samples.  The recursive clauses repeat the arguments of `build`'s two recursive calls term for
term – the counter of the right one included, and `count` is a parameter because the leaf test reads it – so that the
induction hypotheses of `fun_induction build` apply to them as they stand. -/
def Consistent (cfg : Cfg) (O : Oracles) (P : ProjOracles α) :
    (fuel : Nat) → (path : List Bool) → (idx : List Nat) → (count : Nat) → Prop
  | 0, _, _, _ => True
  | fuel + 1, path, idx, count =>
    if shouldCreateLeaf idx.length cfg.maxLeaf cfg.nsplits.isNone count (cfg.nsplits.getD 0) then True
    else
      NodeContract idx.length (fun i => P.projO path (idx.getD i 0)) (O.sortO path idx.length) (P.thrO path) ∧
      (∃ o : Nat, O.ov idx.length = (o : Int) ∧ o + 2 ≤ idx.length) ∧
      Consistent cfg O P fuel (path ++ [false])
        (selectBy (sideMask idx.length (O.sortO path idx.length) (O.ov idx.length) leftChild.idx) idx) (count + 1) ∧
      Consistent cfg O P fuel (path ++ [true])
        (selectBy (sideMask idx.length (O.sortO path idx.length) (O.ov idx.length) rightChild.idx) idx)
        (build cfg O fuel (path ++ [false])
          (selectBy (sideMask idx.length (O.sortO path idx.length) (O.ov idx.length) leftChild.idx) idx)
          (!leftChild.isRootFalse) (count + 1)).2

theorem route_agree (cfg : Cfg) (O : Oracles) (P : ProjOracles α) (hperm : ∀ path n, IsPermOfRange (O.permO path n) n)
    (fuel : Nat) (path : List Bool) (idx : List Nat) (isRoot : Bool) (count : Nat) :
    Consistent cfg O P fuel path idx count →
    (build cfg O fuel path idx isRoot count).1.ok = true →
    ∀ x ∈ idx, Untied P (build cfg O fuel path idx isRoot count).1 path x →
      ∃ l ∈ (build cfg O fuel path idx isRoot count).1.leaves,
        l.1 = routeTo P (build cfg O fuel path idx isRoot count).1 path x ∧ x ∈ l.2.1 ++ l.2.2 := by
  fun_induction build cfg O fuel path idx isRoot count with
  | case1 | case4 => intro _ h; simp [ITree.ok] at h
  | case2 fuel path idx =>
    intro _ _ x hx _
    exact ⟨_, List.mem_singleton_self _, rfl, (refill_perm cfg O path idx (hperm _ _)).mem_iff.mpr hx⟩
  | case3 fuel path idx =>
    intro _ _ x hx _
    exact ⟨_, List.mem_singleton_self _, rfl, by simpa using hx⟩
  | case5 fuel path idx isRoot count n hleaf count1 r sorted li ri _ lres rres ih1 ih2 =>
    intro hcons hok x hx hunt
    rw [Consistent, if_neg hleaf] at hcons
    obtain ⟨hnode, -, hcl, hcr⟩ := hcons
    simp only [ITree.ok, Bool.and_eq_true] at hok
    rw [Untied] at hunt
    obtain ⟨hne, hrest⟩ := hunt
    -- `x` sits at some position `i`; the child that the threshold rule picks has received position `i`
    obtain ⟨i, hi, hget⟩ := List.mem_iff_getElem.mp hx
    have hg : idx[i]? = some x := by rw [List.getElem?_eq_getElem hi, hget]
    have hag := node_agree n r _ _ _ hnode i hi
    simp only [getD_of_getElem? hg 0] at hag
    replace hag := hag hne
    simp only [routeTo, ITree.leaves]
    by_cases hgo : goesLeft (P.projO path x) (P.thrO path) = true
    · rw [if_pos hgo] at hrest ⊢
      obtain ⟨l, hl, h⟩ := ih1 hcl hok.1 x ((mem_selectBy _ _ _).mpr ⟨i, hg, hag.1 hgo⟩) hrest
      exact ⟨l, List.mem_append.mpr (.inl hl), h⟩
    · rw [if_neg hgo] at hrest ⊢
      obtain ⟨l, hl, h⟩ := ih2 hcr hok.2 x
        ((mem_selectBy _ _ _).mpr ⟨i, hg, hag.2 (Bool.not_eq_true _ ▸ hgo)⟩) hrest
      exact ⟨l, List.mem_append.mpr (.inr hl), h⟩

/-- `ok` from the per-node contracts collected in `Consistent`, forced splits or not; `BuildIndex.index_build_ok` reaches it
through the size skeleton instead, from the global `OvOk` and without forced splits. -/
theorem ok_of_consistent (cfg : Cfg) (O : Oracles) (P : ProjOracles α)
    (fuel : Nat) (path : List Bool) (idx : List Nat) (isRoot : Bool) (count : Nat) :
    idx.length + 1 ≤ fuel → Consistent cfg O P fuel path idx count →
      (build cfg O fuel path idx isRoot count).1.ok = true := by
  fun_induction build cfg O fuel path idx isRoot count with
  | case1 => intro h; omega
  | case2 | case3 => intro _ _; rfl
  | case4 fuel path idx isRoot count n hleaf count1 r sorted li ri hbad =>
    -- with two unshared samples both children are non-empty
    intro _ hcons
    rw [Consistent, if_neg hleaf] at hcons
    obtain ⟨hnode, ⟨o, hov, ho2⟩, -, -⟩ := hcons
    have h0 := (split_fails_iff idx sorted (O.ov idx.length) hnode.perm).mp hbad
    rw [hov] at h0
    exact absurd h0 (Nat.ne_of_gt (BuildSizes.sizes_of_gap idx.length o (Int.natCast_nonneg o) (by omega)).1)
  | case5 fuel path idx isRoot count n hleaf count1 r sorted li ri _ lres rres ih1 ih2 =>
    -- with two unshared samples both children are strictly smaller than the node, so the fuel suffices for them
    intro hfuel hcons
    rw [Consistent, if_neg hleaf] at hcons
    obtain ⟨hnode, ⟨o, hov, ho2⟩, hcl, hcr⟩ := hcons
    have hl : li.length = _ := (child_lengths idx sorted (O.ov idx.length) hnode.perm).1
    have hr : ri.length = _ := (child_lengths idx sorted (O.ov idx.length) hnode.perm).2
    have := BuildSizes.sizes_of_gap idx.length o (Int.natCast_nonneg o) (by omega)
    rw [hov] at hl hr
    simp only [ITree.ok, Bool.and_eq_true]
    exact ⟨ih1 (by omega) hcl, ih2 (by omega) hcr⟩

end Xrfmv.RouteAgree
