/-
The object model of `xRFM.fit` (`Xrfmv/Model/FitObj.lean`): under the ten source facts the entry block of `fit` leaves an
object that is a function of constructor configuration and data alone (`entryOf`), whatever fits came before; so is
everything `fit` computes after it.
-/
import Xrfmv.Model.FitObj

namespace Xrfmv.FitObj
open Xrfmv.Gen.FitObj
open Xrfmv.Rng (Rng)

theorem eq_of_factsOk {F : FitFacts} (h : factsOk F = true) :
    F = ⟨true, true, true, true, true, true, true, true, true, true⟩ := by
  cases F; simp_all [factsOk]

theorem inv_fresh (dv : Derive) (cfg : Cfg) (c : Bool) : Inv dv cfg c (fresh cfg) where
  cfg_eq := rfl
  temp := fun _ => rfl
  metric := ⟨fun _ h => h, fun h => Or.inl h⟩
  conv := fun _ => rfl

/-- What the entry block of `fit` leaves, as a function of constructor configuration and data alone. -/
def entryOf (dv : Derive) (cfg : Cfg) (D : Data) : Obj :=
  { cfg := cfg, trees := some 0, splitTemperature := cfg.configuredTemp, nClasses := some (dv.nClasses cfg D),
    classConverter := if D.isClass then some (dv.converter cfg D) else none, extraRfmParams := some (dv.extra cfg D),
    tuningMetric := some (cfg.metricArg.getD (dv.defaultMetric D.isClass)), dataDim := some (dv.dim D) }

variable {F : FitFacts} (dv : Derive) (L : Learner) {cfg : Cfg} {o : Obj} {D : Data}

/-- The entry block forgets the task history of the object it runs on. -/
theorem atEntry_of_inv (hF : factsOk F = true) (h : Inv dv cfg D.isClass o) : atEntry F dv o D = entryOf dv cfg D := by
  obtain rfl := eq_of_factsOk hF
  obtain ⟨rfl, htemp, ⟨hset, hunset⟩, hconv⟩ := h
  simp only [atEntry, entryOf, Bool.true_and, if_true]
  -- left are the three fields that are overwritten only conditionally; there the invariant says what the old value is
  congr 1
  · -- `splitTemperature`: reset when tuning
    cases hu : o.cfg.useTuning <;> simp [hu, htemp]
  · -- `classConverter`: assigned for classification
    cases hc : D.isClass <;> simp [hc, hconv]
  · -- `tuningMetric`: assigned when unset
    cases hm : o.cfg.metricArg with
    | some m => simp [hset m hm]
    | none => rcases hunset hm with a | a <;> simp [a]

theorem fitObj_eq (hF : factsOk F = true) {o₁ o₂ : Obj} (h₁ : Inv dv cfg D.isClass o₁) (h₂ : Inv dv cfg D.isClass o₂)
    (r : Rng) :
    fitObj F dv L o₁ D r = fitObj F dv L o₂ D r := by
  unfold fitObj
  rw [atEntry_of_inv dv hF h₁, atEntry_of_inv dv hF h₂]

theorem inv_fitObj (hF : factsOk F = true) (h : Inv dv cfg D.isClass o) (r : Rng) :
    Inv dv cfg D.isClass (fitObj F dv L o D r) := by
  unfold fitObj
  rw [atEntry_of_inv dv hF h]
  obtain rfl := eq_of_factsOk hF
  exact { cfg_eq := rfl, temp := fun hu => by simp [entryOf, hu],
          metric := ⟨fun m hm => by simp [entryOf, hm], fun hm => Or.inr (by simp [entryOf, hm])⟩,
          conv := fun hc => by simp [entryOf, hc] }

theorem inv_afterHistory (hF : factsOk F = true) (cfg : Cfg) (c : Bool) (hist : List (Data × Rng))
    (hc : ∀ h ∈ hist, h.1.isClass = c) :
    Inv dv cfg c (afterHistory F dv L cfg hist) := by
  unfold afterHistory
  suffices H : ∀ o, Inv dv cfg c o → Inv dv cfg c (hist.foldl (fun o h => fitObj F dv L o h.1 h.2) o) from
    H _ (inv_fresh dv cfg c)
  induction hist with
  | nil => exact fun _ ho => ho
  | cons h rest ih =>
    obtain rfl := hc h (List.mem_cons_self ..)
    exact fun o ho => ih (fun x hx => hc x (List.mem_cons_of_mem _ hx)) _ (inv_fitObj dv L hF ho h.2)

end Xrfmv.FitObj
