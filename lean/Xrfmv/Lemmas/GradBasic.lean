/-
`Xrfmv.Grad` (`Model/Grad.lean`) at `ℝ`, without calculus: entries and lengths of the vector operations, signs of the
kernel quantities, the coinciding center.  `vsum` is `List.sum` by `rfl`, so facts about sums are Mathlib's.
-/
import Xrfmv.Model.Grad
import Xrfmv.Lemmas.RealInst

namespace Xrfmv.Grad

@[simp] theorem rpow_real (x y : ℝ) : rpow x y = x ^ y := rfl
@[simp] theorem abs_real (x : ℝ) : HasAbs.abs x = |x| := rfl
@[simp] theorem exp_real (x : ℝ) : exp x = Real.exp x := rfl
@[simp] theorem sqrt_real (x : ℝ) : sqrt x = Real.sqrt x := rfl

@[simp] theorem vsum_nil : vsum ([] : List ℝ) = 0 := rfl
@[simp] theorem vsum_cons (a : ℝ) (l : List ℝ) : vsum (a :: l) = a + vsum l := rfl
theorem vsum_eq_sum (l : List ℝ) : vsum l = l.sum := rfl

theorem vsum_append (l₁ l₂ : List ℝ) : vsum (l₁ ++ l₂) = vsum l₁ + vsum l₂ := List.sum_append

theorem vsum_replicate_zero (n : ℕ) : vsum (List.replicate n (0 : ℝ)) = 0 :=
  List.sum_eq_zero fun _ h => List.eq_of_mem_replicate h

theorem vsum_map_pos (φ : ℝ → ℝ) (hφ : ∀ x, 0 < φ x) (l : List ℝ) (hl : l ≠ []) : 0 < vsum (l.map φ) :=
  List.sum_pos _ (List.forall_mem_map.2 fun x _ => hφ x) (mt List.map_eq_nil_iff.1 hl)

theorem vsum_map_nonneg (φ : ℝ → ℝ) (hφ : ∀ x, 0 ≤ φ x) (l : List ℝ) : 0 ≤ vsum (l.map φ) :=
  List.sum_nonneg (List.forall_mem_map.2 fun x _ => hφ x)

theorem vsum_zipWith_ofFn {β γ : Type} (f : β → γ → ℝ) : ∀ {n : ℕ} (a : Fin n → β) (b : Fin n → γ),
    vsum (List.zipWith f (List.ofFn a) (List.ofFn b)) = ∑ i, f (a i) (b i)
  | 0, _, _ => by rw [List.ofFn_zero, List.zipWith_nil_left, vsum_nil, Fin.sum_univ_zero]
  | n + 1, a, b => by
    rw [List.ofFn_succ, List.ofFn_succ, List.zipWith_cons_cons, vsum_cons, Fin.sum_univ_succ,
      vsum_zipWith_ofFn f (fun i => a i.succ) (fun i => b i.succ)]

theorem lenS_eq_length {β : Type} (l : List β) : (lenS l : ℝ) = (l.length : ℝ) := by
  induction l with
  | nil => simp [lenS]
  | cons a l ih => rw [List.length_cons, Nat.cast_succ, ← ih]; rfl

theorem sgnPow_eq (a t : ℝ) : sgnPow a t = |t| ^ a * (SignType.sign t : ℝ) := by
  unfold sgnPow
  rcases lt_trichotomy t 0 with h | h | h
  · have : ¬ (0 < t) := not_lt.2 h.le
    simp [this, h, sign_neg h]
  · subst h; simp
  · simp [h, sign_pos h]

theorem sgnPow_zero (a : ℝ) : sgnPow a 0 = 0 := by simp [sgnPow]

theorem getElem?_append_cons {β : Type} (pre post : List β) (x : β) {n : ℕ} (hn : pre.length = n) :
    (pre ++ x :: post)[n]? = some x := by
  subst hn
  rw [List.getElem?_append_right le_rfl, Nat.sub_self, List.getElem?_cons_zero]

theorem vsub_length {v u : List ℝ} (h : v.length = u.length) : (vsub v u).length = v.length := by
  rw [vsub, List.length_zipWith, h, min_self]

theorem vsub_split {vpre vpost upre upost : List ℝ} {a s : ℝ} (h : vpre.length = upre.length) :
    vsub (vpre ++ s :: vpost) (upre ++ a :: upost) = vsub vpre upre ++ (s - a) :: vsub vpost upost := by
  unfold vsub
  rw [List.zipWith_append h]
  rfl

theorem mem_vsub_entry {vpre vpost upre upost : List ℝ} (a t : ℝ) (h : vpre.length = upre.length) :
    t - a ∈ vsub (vpre ++ t :: vpost) (upre ++ a :: upost) := by
  rw [vsub_split h]
  exact List.mem_append_right _ List.mem_cons_self

theorem map_entry (g : ℝ → ℝ) {pre post : List ℝ} {x : ℝ} {n : ℕ} (hn : pre.length = n) :
    (List.map g (pre ++ x :: post))[n]? = some (g x) := by
  rw [List.map_append, List.map_cons]
  exact getElem?_append_cons _ _ _ ((List.length_map g).trans hn)

theorem map_vsub_entry (g : ℝ → ℝ) {vpre vpost upre upost : List ℝ} (a t : ℝ) (h : vpre.length = upre.length) :
    (List.map g (vsub (vpre ++ t :: vpost) (upre ++ a :: upost)))[vpre.length]? = some (g (t - a)) := by
  rw [vsub_split h]
  exact map_entry g (vsub_length h)

theorem coordSum_eq (φ : ℝ → ℝ) {vpre vpost upre upost : List ℝ} (a s : ℝ) (h : vpre.length = upre.length) :
    vsum ((vsub (vpre ++ s :: vpost) (upre ++ a :: upost)).map φ)
      = vsum ((vsub vpre upre).map φ) + (φ (s - a) + vsum ((vsub vpost upost).map φ)) := by
  rw [vsub_split h, List.map_append, vsum_append, List.map_cons, vsum_cons]

theorem sqDist_nonneg (u v : List ℝ) : 0 ≤ sqDist u v :=
  vsum_map_nonneg _ (fun t => mul_self_nonneg t) _

theorem pSum_nonneg (a : ℝ) (Δ : List ℝ) : 0 ≤ pSum a Δ :=
  vsum_map_nonneg _ (fun t => Real.rpow_nonneg (abs_nonneg t) a) Δ

theorem pNorm_nonneg (p : ℝ) (Δ : List ℝ) : 0 ≤ pNorm p Δ :=
  Real.rpow_nonneg (pSum_nonneg p Δ) _

theorem rpow_abs_le_pSum (p : ℝ) {Δ : List ℝ} {δ : ℝ} (h : δ ∈ Δ) : |δ| ^ p ≤ pSum p Δ :=
  List.single_le_sum (List.forall_mem_map.2 fun t _ => Real.rpow_nonneg (abs_nonneg t) p) _
    (List.mem_map_of_mem (f := fun t : ℝ => |t| ^ p) h)

theorem pSum_pos_of_mem (p : ℝ) {Δ : List ℝ} {δ : ℝ} (h : δ ∈ Δ) (hδ : δ ≠ 0) : 0 < pSum p Δ :=
  (Real.rpow_pos_of_pos (abs_pos.2 hδ) p).trans_le (rpow_abs_le_pSum p h)

theorem abs_le_pNorm {p : ℝ} (hp : 0 < p) {Δ : List ℝ} {δ : ℝ} (h : δ ∈ Δ) : |δ| ≤ pNorm p Δ := by
  have h2 := Real.rpow_le_rpow (Real.rpow_nonneg (abs_nonneg δ) p) (rpow_abs_le_pSum p h) (one_div_pos.2 hp).le
  rw [← Real.rpow_mul (abs_nonneg δ), mul_one_div_cancel hp.ne', Real.rpow_one] at h2
  exact h2

theorem profile_pos (L q s : ℝ) : 0 < profile L q s := Real.exp_pos _

theorem sBracket_pos (P : Params ℝ) (hc0 : 0 ≤ P.cmix) (hc1 : P.cmix < 1) (Δ : List ℝ) (hΔ : Δ ≠ []) :
    0 < sBracket P Δ := by
  have h2 : (0 : ℝ) < lenS Δ := by
    rw [lenS_eq_length]; exact Nat.cast_pos.2 (List.length_pos_iff.2 hΔ)
  exact add_pos_of_pos_of_nonneg
    (mul_pos (sub_pos.2 hc1) (div_pos (vsum_map_pos _ (profile_pos P.L P.q) Δ hΔ) h2)) hc0

theorem lightSq_eq_max (M : Transform ℝ) (x z : List ℝ) :
    lightSq M x z = max (dot (vsub z x) (applyT M (vsub z x))) 0 := by
  simp only [lightSq]
  split_ifs with h
  · exact (max_eq_right h.le).symm
  · exact (max_eq_left (not_lt.1 h)).symm

theorem lightSq_nonneg (M : Transform ℝ) (x z : List ℝ) : 0 ≤ lightSq M x z :=
  lightSq_eq_max M x z ▸ le_max_right _ _

theorem lightSq_none (x z : List ℝ) : lightSq (.none : Transform ℝ) x z = sqDist x z := by
  have e : dot (vsub z x) (applyT .none (vsub z x)) = sqDist x z := congrArg vsum List.zipWith_self
  rw [lightSq_eq_max, e, max_eq_left (sqDist_nonneg x z)]

theorem vadd_getD (a b : List ℝ) (h : a.length = b.length) (n : ℕ) :
    (vadd a b).getD n 0 = a.getD n 0 + b.getD n 0 := by
  simp only [vadd, List.getD_eq_getElem?_getD, List.getElem?_zipWith]
  rcases Nat.lt_or_ge n a.length with hn | hn
  · rw [List.getElem?_eq_getElem hn, List.getElem?_eq_getElem (h ▸ hn)]; rfl
  · rw [List.getElem?_eq_none hn, List.getElem?_eq_none (h ▸ hn)]; simp

theorem vadd_length (a b : List ℝ) (h : a.length = b.length) : (vadd a b).length = a.length := by
  simp [vadd, h]

theorem vzero_getD (m n : ℕ) : (vzero m : List ℝ).getD n 0 = 0 := by
  rw [vzero, List.getD_eq_getElem?_getD, List.getElem?_replicate]
  split_ifs <;> rfl

theorem vscale_getD (c : ℝ) (v : List ℝ) (n : ℕ) : (vscale c v).getD n 0 = c * v.getD n 0 := by
  unfold vscale
  rw [List.getD_eq_getElem?_getD, List.getD_eq_getElem?_getD, List.getElem?_map]
  cases v[n]? <;> simp

theorem vscale_length (c : ℝ) (v : List ℝ) : (vscale c v).length = v.length := by simp [vscale]

theorem rowGrad_nil (pg : List ℝ → List ℝ → List ℝ) (c v : List ℝ) : rowGrad pg c [] v = vzero v.length := by
  cases c <;> rfl

theorem rowGrad_cons (pg : List ℝ → List ℝ → List ℝ) (ci : ℝ) (c u : List ℝ) (us : List (List ℝ)) (v : List ℝ) :
    rowGrad pg (ci :: c) (u :: us) v = vadd (vscale ci (pg u v)) (rowGrad pg c us v) :=
  rfl

theorem rowGrad_length_getD (pg : List ℝ → List ℝ → List ℝ) (v c : List ℝ) (us : List (List ℝ))
    (hpg : ∀ u ∈ us, (pg u v).length = v.length) :
    (rowGrad pg c us v).length = v.length ∧
    ∀ n, (rowGrad pg c us v).getD n 0 = vsum (List.zipWith (fun ci u => ci * (pg u v).getD n 0) c us) := by
  induction us generalizing c with
  | nil => simp only [rowGrad_nil, List.zipWith_nil_right]; exact ⟨List.length_replicate, vzero_getD _⟩
  | cons u us ih =>
    cases c with
    | nil => exact ⟨List.length_replicate, vzero_getD _⟩
    | cons ci c =>
      obtain ⟨hl, hg⟩ := ih c fun u' hu' => hpg u' (List.mem_cons_of_mem _ hu')
      have hlen : (vscale ci (pg u v)).length = (rowGrad pg c us v).length := by
        rw [vscale_length, hpg u List.mem_cons_self, hl]
      rw [rowGrad_cons]
      refine ⟨by rw [vadd_length _ _ hlen, hlen, hl], fun n => ?_⟩
      rw [vadd_getD _ _ hlen, vscale_getD, hg, List.zipWith_cons_cons, vsum_cons]

theorem pairGrad_length (k : Kind) (P : Params ℝ) (u v : List ℝ) (h : v.length = u.length) :
    (pairGrad k P u v).length = v.length := by
  -- every gradient is `(vsub v u).map _`, under an `if` or not
  cases k <;> simp only [pairGrad, gradL2, gradProd, gradLpq, gradSumPower, apply_ite List.length, List.length_map,
    ite_self, vsub_length h]

theorem fgrad_of_ne_light {k : Kind} (hk : k ≠ .light) (P : Params ℝ) (T : Transform ℝ) (xs zs : List (List ℝ))
    (coefs : List (List ℝ)) :
    fgrad k P T xs zs coefs = coefs.map fun c => zs.map fun z =>
      applyT T (rowGrad (pairGrad k P) c (xs.map (applyT T)) (applyT T z)) := by
  cases k <;> first | exact absurd rfl hk | rfl

theorem predictRow_of_ne_light {k : Kind} (hk : k ≠ .light) (P : Params ℝ) (T : Transform ℝ) (xs : List (List ℝ))
    (c z : List ℝ) :
    predictRow k P T xs c z = fval (kval k P) c (xs.map (applyT T)) (applyT T z) := by
  cases k <;> first | exact absurd rfl hk | rfl

theorem applyT_diag_split {zpre zpost τpre τpost : List ℝ} {s τd : ℝ} (h : zpre.length = τpre.length) :
    applyT (.diag (τpre ++ τd :: τpost)) (zpre ++ s :: zpost)
      = applyT (.diag τpre) zpre ++ (s * τd) :: applyT (.diag τpost) zpost := by
  simp only [applyT]
  rw [List.zipWith_append h]
  rfl

theorem applyT_diag_length {z τ : List ℝ} (h : z.length = τ.length) : (applyT (.diag τ) z).length = z.length := by
  rw [applyT, List.length_zipWith, h, min_self]

theorem applyT_diag_entry (gpre gpost τpre τpost : List ℝ) (g τd : ℝ) (h : gpre.length = τpre.length) :
    (applyT (.diag (τpre ++ τd :: τpost)) (gpre ++ g :: gpost))[gpre.length]? = some (g * τd) := by
  rw [applyT_diag_split h]
  exact getElem?_append_cons _ _ _ (applyT_diag_length h)

theorem applyT_diag_getD (g : List ℝ) {τpre τpost : List ℝ} {τd : ℝ} {n : ℕ} (hn : τpre.length = n) :
    (applyT (.diag (τpre ++ τd :: τpost)) g).getD n 0 = g.getD n 0 * τd := by
  simp only [applyT]
  rw [List.getD_eq_getElem?_getD, List.getD_eq_getElem?_getD, List.getElem?_zipWith,
    getElem?_append_cons _ _ _ hn]
  cases g[n]? <;> simp

/-- The model's `x @ T` on lists is `Matrix.vecMul`. -/
theorem applyT_full_entry {n : ℕ} (T : Matrix (Fin n) (Fin n) ℝ) (x : Fin n → ℝ) (e : Fin n) :
    (applyT (.full (List.ofFn fun i => List.ofFn (T i))) (List.ofFn x))[(e : ℕ)]? = some (Matrix.vecMul x T e) := by
  simp only [applyT, List.length_ofFn]
  rw [List.getElem?_map, List.getElem?_range e.isLt, Option.map_some, vsum_zipWith_ofFn]
  simp only [Matrix.vecMul, dotProduct, List.getD_eq_getElem?_getD, List.getElem?_ofFn, e.isLt, dite_true,
    Option.getD_some]

theorem vsub_self (u : List ℝ) : vsub u u = List.replicate u.length 0 := by
  simp only [vsub, List.zipWith_self, sub_self, List.map_const']

theorem sqDist_self (u : List ℝ) : sqDist u u = 0 := by
  unfold sqDist; rw [vsub_self, List.map_replicate, mul_zero, vsum_replicate_zero]

theorem pSum_self (a : ℝ) (ha : a ≠ 0) (u : List ℝ) : pSum a (vsub u u) = 0 := by
  unfold pSum; rw [vsub_self, List.map_replicate]
  simp only [rpow_real, abs_real, abs_zero, Real.zero_rpow ha, vsum_replicate_zero]

theorem dot_append (a₁ a₂ b₁ b₂ : List ℝ) (h : a₁.length = b₁.length) :
    dot (a₁ ++ a₂) (b₁ ++ b₂) = dot a₁ b₁ + dot a₂ b₂ := by
  unfold dot; rw [List.zipWith_append h, vsum_append]

theorem dot_cons (a b : ℝ) (l₁ l₂ : List ℝ) : dot (a :: l₁) (b :: l₂) = a * b + dot l₁ l₂ := rfl

end Xrfmv.Grad
