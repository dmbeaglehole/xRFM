/-
Lemmas about the categorical fast path model `Xrfmv.Categorical` at `ℝ`: a sum over all columns splits over the blocks of
the layout; a transform that does not mix blocks acts on each block through its sub-transform; on one-hot rows the fast
path's table lookup is the dense block term.
-/
import Xrfmv.Model.Categorical
import Xrfmv.Lemmas.RealInst

namespace Xrfmv.Categorical

@[simp] theorem rpow_real (x y : ℝ) : HasRpow.rpow x y = x ^ y := rfl
@[simp] theorem abs_real (x : ℝ) : HasAbs.abs x = |x| := rfl
@[simp] theorem sqrt_real (x : ℝ) : HasSqrt.sqrt x = Real.sqrt x := rfl
@[simp] theorem exp_real (x : ℝ) : HasExp.exp x = Real.exp x := rfl

theorem sumL_eq_sum (l : List ℝ) : sumL l = l.sum := by
  induction l with
  | nil => rfl
  | cons a l ih => simp [sumL, ih]

theorem sumL_append (l l' : List ℝ) : sumL (l ++ l') = sumL l + sumL l' := by
  simp [sumL_eq_sum]

theorem sumOver_nil (f : ℕ → ℝ) : sumOver [] f = 0 := rfl

theorem sumOver_cons (a : ℕ) (l : List ℕ) (f : ℕ → ℝ) : sumOver (a :: l) f = f a + sumOver l f := rfl

theorem sumOver_append (l l' : List ℕ) (f : ℕ → ℝ) : sumOver (l ++ l') f = sumOver l f + sumOver l' f := by
  simp [sumOver, sumL_append]

theorem sumOver_flatten (L : List (List ℕ)) (f : ℕ → ℝ) :
    sumOver L.flatten f = sumL (L.map fun B => sumOver B f) := by
  induction L with
  | nil => rfl
  | cons B L ih => simp [sumOver_append, ih, sumL]

theorem sumOver_perm {l l' : List ℕ} (h : l.Perm l') (f : ℕ → ℝ) : sumOver l f = sumOver l' f := by
  simp only [sumOver, sumL_eq_sum]
  exact (h.map f).sum_eq

theorem sumOver_congr {l : List ℕ} {f g : ℕ → ℝ} (h : ∀ i ∈ l, f i = g i) : sumOver l f = sumOver l g := by
  unfold sumOver
  rw [List.map_congr_left h]

theorem sumRange_congr {k : ℕ} {f g : ℕ → ℝ} (h : ∀ i < k, f i = g i) : sumRange k f = sumRange k g :=
  sumOver_congr fun i hi => h i (List.mem_range.mp hi)

theorem sumOver_nonneg {l : List ℕ} {f : ℕ → ℝ} (h : ∀ i ∈ l, 0 ≤ f i) : 0 ≤ sumOver l f := by
  rw [sumOver, sumL_eq_sum]
  exact List.sum_nonneg (List.forall_mem_map.2 h)

theorem sumOver_eq_sumRange (B : List ℕ) (f : ℕ → ℝ) :
    sumOver B f = sumRange B.length fun c => f (B.getD c 0) := by
  refine congrArg sumL (List.ext_getElem (by rw [List.length_map, List.length_map, List.length_range]) fun i h1 _ => ?_)
  rw [List.length_map] at h1
  rw [List.getElem_map, List.getElem_map, List.getElem_range, List.getElem_eq_getD 0]

theorem sumRange_eq_sumOver_block {d : ℕ} {B : List ℕ} {f : ℕ → ℝ} (hnd : B.Nodup) (hsub : ∀ i ∈ B, i < d)
    (hzero : ∀ i < d, i ∉ B → f i = 0) : sumRange d f = sumOver B f := by
  -- both sums as `Finset` sums: `B ⊆ range d`, and `f` vanishes on the difference
  rw [sumRange, sumOver, sumOver, sumL_eq_sum, sumL_eq_sum, ← List.sum_toFinset f List.nodup_range,
    ← List.sum_toFinset f hnd]
  refine (Finset.sum_subset (fun i hi => ?_) fun i hi hiB => ?_).symm
  · exact List.mem_toFinset.2 (List.mem_range.2 (hsub i (List.mem_toFinset.1 hi)))
  · exact hzero i (List.mem_range.1 (List.mem_toFinset.1 hi)) fun h => hiB (List.mem_toFinset.2 h)

theorem mem_blocks_of_mem_groups {lay : Layout} {g : List ℕ} (h : g ∈ lay.groups) : g ∈ lay.blocks := by
  simp [Layout.blocks, h]

theorem num_mem_blocks (lay : Layout) : lay.num ∈ lay.blocks := by simp [Layout.blocks]

theorem cover_eq (lay : Layout) : lay.cover = lay.num ++ lay.groups.flatten := by
  simp [Layout.cover, Layout.blocks]

theorem sameBlock_iff (lay : Layout) (i j : ℕ) :
    sameBlock lay i j = true ↔ ∃ B ∈ lay.blocks, i ∈ B ∧ j ∈ B := by
  simp only [sameBlock, List.any_eq_true, Bool.and_eq_true, List.contains_iff_mem]

theorem block_nodup {lay : Layout} (h : lay.cover.Nodup) {B : List ℕ} (hB : B ∈ lay.blocks) : B.Nodup :=
  (List.nodup_flatten.mp h).1 B hB

theorem block_unique {lay : Layout} (h : lay.cover.Nodup) {B B' : List ℕ} (hB : B ∈ lay.blocks)
    (hB' : B' ∈ lay.blocks) {i : ℕ} (hi : i ∈ B) (hi' : i ∈ B') : B = B' := by
  by_contra hne
  -- `List.Pairwise.forall` needs the relation symmetric
  have : Std.Symm (List.Disjoint (α := ℕ)) := ⟨fun _ _ h => h.symm⟩
  have hd : List.Disjoint B B' := (List.nodup_flatten.mp h).2.forall hB hB' hne
  exact hd hi hi'

theorem mem_cover_of_mem_block {lay : Layout} {B : List ℕ} (hB : B ∈ lay.blocks) {i : ℕ} (hi : i ∈ B) :
    i ∈ lay.cover := List.mem_flatten.mpr ⟨B, hB, hi⟩

theorem sum_block_additive (lay : Layout) (d : ℕ) (h : lay.cover.Perm (List.range d)) (f : ℕ → ℝ) :
    sumRange d f = sumOver lay.num f + sumL (lay.groups.map fun g => sumOver g f) := by
  unfold sumRange
  rw [← sumOver_perm h f, cover_eq, sumOver_append, sumOver_flatten]

/-- A row is one-hot on every categorical group of the layout. -/
def OneHotRows (lay : Layout) (x : ℕ → ℝ) : Prop :=
  ∀ g ∈ lay.groups, ∃ a < g.length, ∀ c < g.length, restrict x g c = onehot a c

theorem argmax_succ (row : ℕ → ℝ) (k : ℕ) :
    argmax row (k + 1) = if row (argmax row k) < row k then k else argmax row k := rfl

theorem argmax_lt_succ (row : ℕ → ℝ) : ∀ k, argmax row k < k + 1
  | 0 => Nat.one_pos
  | k + 1 => by
    rw [argmax_succ]
    split
    · exact Nat.lt_succ_of_lt (Nat.lt_succ_self k)
    · exact Nat.lt_succ_of_lt (argmax_lt_succ row k)

theorem argmax_lt (row : ℕ → ℝ) : ∀ {k : ℕ}, 0 < k → argmax row k < k
  | k + 1, _ => by
    rw [argmax_succ]
    split
    · exact Nat.lt_succ_self _
    · exact argmax_lt_succ row k

theorem argmax_congr {row row' : ℕ → ℝ} : ∀ {k : ℕ}, (∀ i < k, row i = row' i) → argmax row k = argmax row' k
  | 0, _ => rfl
  | k + 1, h => by
    have ih := argmax_congr fun i hi => h i (Nat.lt_succ_of_lt hi)
    rw [argmax_succ, argmax_succ, ← ih, h k (Nat.lt_succ_self k), h (argmax row k) (argmax_lt_succ row k)]

/-- The model's `argmax` (mirroring `torch.argmax`) returns the first maximal index. -/
theorem argmax_eq_of_first_max {row : ℕ → ℝ} {a : ℕ} (hlt : ∀ i < a, row i < row a) :
    ∀ {k : ℕ}, a < k → (∀ i < k, row i ≤ row a) → argmax row k = a
  | k + 1, hak, hle => by
    rw [argmax_succ]
    rcases Nat.lt_succ_iff_lt_or_eq.1 hak with h | rfl
    · rw [argmax_eq_of_first_max hlt h fun i hi => hle i (Nat.lt_succ_of_lt hi),
        if_neg (not_lt.2 (hle k (Nat.lt_succ_self k)))]
    · rcases Nat.eq_zero_or_pos a with rfl | ha
      · exact ite_self _
      · exact if_pos (hlt _ (argmax_lt row ha))

theorem argmax_onehot {row : ℕ → ℝ} {a k : ℕ} (h : a < k) (hrow : ∀ c < k, row c = onehot a c) : argmax row k = a :=
  (argmax_congr hrow).trans <| argmax_eq_of_first_max
    (fun i hi => by rw [onehot, onehot, if_neg hi.ne, if_pos rfl]; exact one_pos) h
    fun i _ => by rw [onehot, onehot, if_pos rfl]; split <;> norm_num

theorem applyT_congr (T : Transform ℝ) {k : ℕ} {row row' : ℕ → ℝ} (h : ∀ i < k, row i = row' i) :
    ∀ j < k, applyT T k row j = applyT T k row' j := by
  intro j hj
  cases T with
  | none => exact h j hj
  | diag v => simp [applyT, h j hj]
  | full m =>
    simp only [applyT]
    exact sumRange_congr fun i hi => by rw [h i hi]

/-- With no cross-block entries, the transformed row restricted to block `B` is the sub-transform of
the restricted row: `(x·T)|_B = x_B · T_B`. -/
theorem applyT_block {lay : Layout} {d : ℕ} (hcover : lay.cover.Perm (List.range d)) {T : Transform ℝ}
    (hT : NoMix lay d T) {B : List ℕ} (hB : B ∈ lay.blocks) (x : ℕ → ℝ) {c : ℕ} (hc : c < B.length) :
    applyT T d x (B.getD c 0) = applyT (subT T B) B.length (restrict x B) c := by
  cases T with
  | none => rfl
  | diag v => rfl
  | full m =>
    have hnd : lay.cover.Nodup := hcover.nodup_iff.mpr List.nodup_range
    have hlt : ∀ i ∈ B, i < d := fun i hi =>
      List.mem_range.mp (hcover.mem_iff.mp (mem_cover_of_mem_block hB hi))
    have hj : B.getD c 0 ∈ B := List.getElem_eq_getD (h := hc) 0 ▸ List.getElem_mem hc
    -- columns outside `B` contribute nothing to column `B[c]`: `NoMix`
    have hzero : ∀ i < d, i ∉ B → x i * m i (B.getD c 0) = 0 := fun i hi hiB => by
      have : sameBlock lay i (B.getD c 0) = false := by
        rw [Bool.eq_false_iff]
        intro hs
        obtain ⟨B', hB', hiB', hjB'⟩ := (sameBlock_iff lay i _).mp hs
        exact hiB (block_unique hnd hB hB' hj hjB' ▸ hiB')
      rw [hT i (B.getD c 0) hi (hlt _ hj) this, mul_zero]
    simp only [applyT, subT, restrict]
    rw [sumRange_eq_sumOver_block (block_nodup hnd hB) hlt hzero, sumOver_eq_sumRange]

theorem lpPowRange_congr {p : ℝ} {k : ℕ} {u u' v v' : ℕ → ℝ} (hu : ∀ i < k, u i = u' i)
    (hv : ∀ i < k, v i = v' i) : lpPowRange p k u v = lpPowRange p k u' v' := by
  unfold lpPowRange
  exact sumRange_congr fun i hi => by simp only [lpTerm, hu i hi, hv i hi]

theorem lpPowOver_nonneg (p : ℝ) (idx : List ℕ) (u v : ℕ → ℝ) : 0 ≤ lpPowOver p idx u v :=
  sumOver_nonneg fun _ _ => Real.rpow_nonneg (abs_nonneg _) p

theorem denseAcc_nonneg (p : ℝ) (d : ℕ) (T : Transform ℝ) (x z : ℕ → ℝ) : 0 ≤ denseAcc p d T x z :=
  lpPowOver_nonneg p (List.range d) _ _

theorem dense_block_term {lay : Layout} {d : ℕ} (hcover : lay.cover.Perm (List.range d)) {T : Transform ℝ}
    (hT : NoMix lay d T) {B : List ℕ} (hB : B ∈ lay.blocks) (p : ℝ) (x z : ℕ → ℝ) :
    lpPowOver p B (applyT T d x) (applyT T d z) =
      lpPowRange p B.length (applyT (subT T B) B.length (restrict x B))
        (applyT (subT T B) B.length (restrict z B)) := by
  unfold lpPowOver lpPowRange
  rw [sumOver_eq_sumRange]
  apply sumRange_congr
  intro c hc
  simp only [lpTerm, applyT_block hcover hT hB x hc, applyT_block hcover hT hB z hc]

theorem onehot_block_term {lay : Layout} {d : ℕ} (hcover : lay.cover.Perm (List.range d)) {T : Transform ℝ}
    (hT : NoMix lay d T) {g : List ℕ} (hg : g ∈ lay.groups) (p : ℝ) (x z : ℕ → ℝ) {a b : ℕ}
    (hxa : ∀ c < g.length, restrict x g c = onehot a c) (hzb : ∀ c < g.length, restrict z g c = onehot b c) :
    lpPowOver p g (applyT T d x) (applyT T d z) = table p T g a b := by
  rw [dense_block_term hcover hT (mem_blocks_of_mem_groups hg)]
  unfold table
  exact lpPowRange_congr (applyT_congr _ hxa) (applyT_congr _ hzb)

theorem catTerm_onehot (p : ℝ) (T : Transform ℝ) (x z : ℕ → ℝ) (g : List ℕ) {a b : ℕ}
    (ha : a < g.length) (hb : b < g.length)
    (hxa : ∀ c < g.length, restrict x g c = onehot a c) (hzb : ∀ c < g.length, restrict z g c = onehot b c) :
    catTerm p T x z g = table p T g a b := by
  unfold catTerm
  rw [argmax_onehot ha hxa, argmax_onehot hb hzb]

theorem fastAcc_eq_denseAcc (p : ℝ) {lay : Layout} {d : ℕ} (hcover : lay.cover.Perm (List.range d))
    {T : Transform ℝ} (hT : NoMix lay d T) {x z : ℕ → ℝ} (hx : OneHotRows lay x) (hz : OneHotRows lay z) :
    fastAcc p lay T x z = denseAcc p d T x z := by
  unfold denseAcc fastAcc
  rw [lpPowRange, sum_block_additive lay d hcover]
  congr 1
  · exact (dense_block_term hcover hT (num_mem_blocks lay) p x z).symm
  · congr 1
    apply List.map_congr_left
    intro g hg
    obtain ⟨a, ha, hxa⟩ := hx g hg
    obtain ⟨b, hb, hzb⟩ := hz g hg
    exact (catTerm_onehot p T x z g ha hb hxa hzb).trans (onehot_block_term hcover hT hg p x z hxa hzb).symm

theorem outerFast_eq_outerDense (kind : Kind) (p q s : ℝ) (hq : 0 < q) (hs : 0 ≤ s) :
    outerFast kind p q s = outerDense kind p q s := by
  cases kind
  · rfl
  · simp only [outerFast, outerDense, rpow_real, one_div]
    rw [Real.rpow_inv_rpow hs hq.ne']
  · rfl

theorem getD_idxOf {g : List ℕ} {i : ℕ} (h : i ∈ g) : g.getD (g.idxOf i) 0 = i := by
  have hlt : g.idxOf i < g.length := List.idxOf_lt_length_of_mem h
  exact (List.getElem_eq_getD (h := hlt) 0).symm.trans (List.getElem_idxOf hlt)

theorem subGram_idxOf (n : ℕ) (G : ℕ → ℕ → ℝ) {g : List ℕ} {i j : ℕ} (hi : i ∈ g) (hj : j ∈ g) :
    subGram n G g (g.idxOf i) (g.idxOf j) = gram n G i j := by
  simp only [subGram, gram, getD_idxOf hi, getD_idxOf hj]

theorem assignBlock_subGram (n : ℕ) (G : ℕ → ℕ → ℝ) (A : ℕ → ℕ → ℝ) (g : List ℕ) (i j : ℕ) :
    assignBlock A g (subGram n G g) i j =
      if g.contains i && g.contains j then gram n G i j else A i j := by
  unfold assignBlock
  by_cases h : (g.contains i && g.contains j) = true
  · have h' := h
    simp only [Bool.and_eq_true, List.contains_iff_mem] at h'
    rw [if_pos h, if_pos h, subGram_idxOf n G h'.1 h'.2]
  · rw [if_neg h, if_neg h]

theorem foldl_assign_spec (n : ℕ) (G : ℕ → ℕ → ℝ) (gs : List (List ℕ)) :
    ∀ (A : ℕ → ℕ → ℝ) (i j : ℕ),
      (gs.foldl (fun A g => assignBlock A g (subGram n G g)) A) i j =
        if gs.any (fun g => g.contains i && g.contains j) then gram n G i j else A i j := by
  induction gs with
  | nil => intro A i j; simp
  | cons g gs ih =>
    intro A i j
    rw [List.foldl_cons, ih, assignBlock_subGram, List.any_cons]
    cases h1 : gs.any (fun g => g.contains i && g.contains j) <;>
      cases h2 : (g.contains i && g.contains j) <;> simp

theorem agopCat_eq_blockMask (n : ℕ) (G : ℕ → ℕ → ℝ) (lay : Layout) (i j : ℕ) :
    agopCat n G lay i j = blockMask lay (gram n G) i j := by
  -- the numerical block is assigned like any other: on an empty index list `assignBlock` changes nothing
  have h0 : (if lay.num.length > 0 then assignBlock (fun _ _ => (0 : ℝ)) lay.num (subGram n G lay.num)
      else fun _ _ => 0) = assignBlock (fun _ _ => 0) lay.num (subGram n G lay.num) := by
    split
    · rfl
    next h => rw [List.eq_nil_of_length_eq_zero (Nat.eq_zero_of_not_pos h)]; rfl
  unfold agopCat
  rw [h0]
  -- the fold over the groups from the numerical assignment is the fold over `lay.blocks = lay.num :: lay.groups` from
  -- zero; `blockMask` and `sameBlock` unfold to the `if … any …` of `foldl_assign_spec`
  exact foldl_assign_spec n G lay.blocks _ i j

end Xrfmv.Categorical
