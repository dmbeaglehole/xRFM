/-
The selection state machine `Xrfmv.FitLoop` interpreted over `EReal` (real scores, `±∞` initial best).
First, for any scalar type, the regenerated program (`Gen.Select`) is brought to closed form and run from explicit
states: what `fit` returns is fixed by the sequence of `best_*` snapshots and by where the stop test fires
(`fit_of_bests`).  Then both are computed for real scores, with and without `return_best_params`.
-/
import Xrfmv.Model.FitLoop
import Xrfmv.Lemmas.RealInst
import Xrfmv.Lemmas.Better

namespace Xrfmv.FitLoop
open Xrfmv.Gen.Select

section states
variable {α : Type} (cfg : Cfg α)

/-- Live attributes once iterate `i` has been solved. -/
def curAt (i : ℕ) : Cur := { w := some i, m := i, sq := i, bw := if cfg.adaptive then i else 0 }

/-- The loop is about to run iterate `i` (no stop so far) with `best_*` locals `b`; in adaptive mode the bandwidth is
still that of iterate `i - 1`.  At `i = 0` the truncated `0 - 1 = 0` is the bandwidth tag of `init` (`init_eq_headSt`). -/
def headSt (i : ℕ) (b : Best α) : St α :=
  { cur := { w := none, m := i, sq := i, bw := if cfg.adaptive then i - 1 else 0 }, best := b, stopped := false,
    evals := (List.range i).reverse }

/-- Iterate `i` has been solved and scored; `best_*` locals `b`. -/
def scoredSt (i : ℕ) (b : Best α) (stopped : Bool) : St α :=
  { cur := curAt cfg i, best := b, stopped := stopped, evals := (List.range (i + 1)).reverse }

theorem restored_eq (st : St α) : restored cfg st =
    if cfg.returnBest then { w := st.best.w, m := st.best.m.getD 0, sq := st.best.sq.getD 0, bw := st.best.bw }
    else st.cur := by
  simp [restored, restore]

theorem init_eq_headSt [HasInf α] : init cfg = headSt cfg 0 (init cfg).best := by
  simp [init, headSt]

end states

section program
variable {α : Type} [LT α] [DecidableLT α] (cfg : Cfg α) (i : ℕ) (sc : α) (st : St α)

/-- `update_best_params`: a strict improvement in the declared direction snapshots the live attributes. -/
theorem doUpdate_eq : doUpdate cfg i sc st =
    if (if cfg.maximize then st.best.metric < sc else sc < st.best.metric) then
      { st with best := { metric := sc, w := st.cur.w, m := some st.cur.m, sq := some st.cur.sq, iter := some i,
                          bw := st.cur.bw } }
    else st := by
  cases h : cfg.maximize
  · by_cases hlt : sc < st.best.metric <;>
      simp [doUpdate, updateGuards, updatePlans, firstFiring, applyPlan, h, hlt]
  · by_cases hlt : st.best.metric < sc <;>
      simp [doUpdate, updateGuards, updatePlans, firstFiring, applyPlan, h, hlt]

variable [Mul α] [Div α]

theorem runBody_finalBody (b : Best α) : runBody cfg i sc finalBody (headSt cfg i b) =
    if cfg.returnBest then doUpdate cfg i sc (scoredSt cfg i b false) else scoredSt cfg i b false := by
  cases had : cfg.adaptive <;>
    simp [finalBody, runBody, headSt, scoredSt, curAt, resetBandwidthBeforeSolve, List.range_succ, had]

/-- The stop test under `if self.early_stop_rfm:`.  Where it fires only under `return_best_params`, the break keeps the state:
the `fit_M` that `fm` stands for (`if not return_best_params:`) does not run. -/
theorem runBody_stopTest (fm : Bool) (rest : List Step)
    (hrb : (cfg.earlyStop && shouldStop (!cfg.maximize) sc st.best.metric cfg.mult) = true → cfg.returnBest = true) :
    runBody cfg i sc (.stopTest true fm :: rest) st =
      if cfg.earlyStop && shouldStop (!cfg.maximize) sc st.best.metric cfg.mult then { st with stopped := true }
      else runBody cfg i sc rest st := by
  -- `runBody` unfolds to an `if` on the same test (its `!true || cfg.earlyStop` evaluates)
  by_cases ht : (cfg.earlyStop && shouldStop (!cfg.maximize) sc st.best.metric cfg.mult) = true
  · rw [if_pos ht]
    refine (if_pos ht).trans ?_
    rw [hrb ht]
    cases fm <;> rfl
  · rw [if_neg ht]
    exact if_neg ht

theorem final_of_stopped (s : ℕ → α) (h : st.stopped = true) : final cfg s st = st := by
  simp [final, finalGuardNotStopped, h]

theorem final_of_running (s : ℕ → α) (h : st.stopped = false) :
    final cfg s st = runBody cfg cfg.iters (s cfg.iters) finalBody st := by
  simp [final, h]

variable {cfg i sc} {s : ℕ → α} {B : ℕ → Best α} {Stop : ℕ → Prop}

/-- One pass of the loop body from a loop head, given what its prefix `finalBody` leaves: break with iterate `i` scored, or the
next head.  `loopBody` is read only here; its break may spell out the unreachable `if not return_best_params: self.fit_M(...)`
(`fm`) or leave it out. -/
theorem runBody_loopBody {b b' : Best α}
    (hfinal : runBody cfg i sc finalBody (headSt cfg i b) = scoredSt cfg i b' false)
    (hrb : (cfg.earlyStop && shouldStop (!cfg.maximize) sc b'.metric cfg.mult) = true → cfg.returnBest = true) :
    runBody cfg i sc loopBody (headSt cfg i b) =
      if cfg.earlyStop && shouldStop (!cfg.maximize) sc b'.metric cfg.mult then scoredSt cfg i b' true
      else headSt cfg (i + 1) b' := by
  obtain ⟨fm, h⟩ : ∃ fm, runBody cfg i sc loopBody (headSt cfg i b) =
      runBody cfg i sc [.stopTest true fm, .fitM, .delW] (runBody cfg i sc finalBody (headSt cfg i b)) := ⟨_, rfl⟩
  rw [h, hfinal]
  -- up to unfolding: `fit_M`, then `del weights`, of `scoredSt cfg i b' false` is the head of `i + 1` (bandwidth tag `i + 1 - 1`)
  exact runBody_stopTest cfg i sc _ fm _ hrb

/-- A run of `fit` on the scores `s` is described by the `best_*` locals `B i` with which the loop reaches iterate `i` (so
`B (i + 1)` is what the update at `i` leaves and the stop test at `i` reads), and by a predicate `Stop` saying where the stop
test fires.  `step` is about `finalBody`, with which the loop body begins. -/
structure Bests [HasInf α] (cfg : Cfg α) (s : ℕ → α) (B : ℕ → Best α) (Stop : ℕ → Prop) : Prop where
  start : B 0 = (init cfg).best
  step : ∀ i, runBody cfg i (s i) finalBody (headSt cfg i (B i)) = scoredSt cfg i (B (i + 1)) false
  stop : ∀ i, (cfg.earlyStop && shouldStop (!cfg.maximize) (s i) (B (i + 1)).metric cfg.mult) = true ↔ Stop i
  /-- Without `return_best_params` the break would first advance `M` past the weights, a state the lemmas below do not
  describe; there the test never fires (`shouldStop_init`). -/
  returnBest : ∀ i, Stop i → cfg.returnBest = true

variable [HasInf α]

/-- The loop from the head of iterate `i` with `k` iterations left: it breaks at some `n < i + k`, the first iterate at which
the stop test fires (left), or the test fires nowhere and the loop ends at the head of `i + k` (right). -/
theorem loop_headSt (h : Bests cfg s B Stop) (k : ℕ) :
    ∀ i, (∀ k' < i, ¬ Stop k') →
      (∃ n < i + k, (∀ k' < n, ¬ Stop k') ∧ Stop n ∧
        loop cfg s k i (headSt cfg i (B i)) = scoredSt cfg n (B (n + 1)) true) ∨
      ((∀ k' < i + k, ¬ Stop k') ∧ loop cfg s k i (headSt cfg i (B i)) = headSt cfg (i + k) (B (i + k))) := by
  induction k with
  | zero => exact fun i hno => Or.inr ⟨hno, rfl⟩
  | succ k ih =>
    intro i hno
    rw [loop, runBody_loopBody (h.step i) fun ht => h.returnBest i ((h.stop i).1 ht)]
    -- in both cases the `if st'.stopped` of `loop` is decided by reading the flag off the explicit state
    by_cases hs : Stop i
    · rw [if_pos ((h.stop i).2 hs)]
      exact Or.inl ⟨i, Nat.lt_add_of_pos_right k.succ_pos, hno, hs, if_pos rfl⟩
    · rw [if_neg (mt (h.stop i).1 hs), show i + (k + 1) = i + 1 + k from (Nat.add_right_comm i 1 k).symm]
      refine ih (i + 1) fun k' hk' => ?_
      rcases Nat.lt_succ_iff_lt_or_eq.1 hk' with h' | rfl
      exacts [hno k' h', hs]

/-- What `fit` returns: iterate `n`, the first at which the stop test fires or else the final refit (`n = cfg.iters`), is
the last one scored, and a stop is reported exactly when `n < cfg.iters`. -/
theorem fit_of_bests (h : Bests cfg s B Stop) :
    ∃ n ≤ cfg.iters, (∀ k' < n, ¬ Stop k') ∧ (n < cfg.iters → Stop n) ∧
      fit cfg s = { fin := restored cfg (scoredSt cfg n (B (n + 1)) (decide (n < cfg.iters))), bestIter := (B (n + 1)).iter,
                    evals := List.range (n + 1), stopped := decide (n < cfg.iters) } := by
  unfold fit
  rw [init_eq_headSt, ← h.start]
  rcases loop_headSt h cfg.iters 0 (fun _ h0 => absurd h0 (Nat.not_lt_zero _)) with ⟨n, hn, hno, hs, hl⟩ | ⟨hno, hl⟩
  · rw [Nat.zero_add] at hn
    rw [hl, final_of_stopped _ _ _ rfl]
    refine ⟨n, hn.le, hno, fun _ => hs, ?_⟩
    rw [decide_eq_true hn]
    exact congrArg (Result.mk _ _ · _) (List.reverse_reverse _)  -- only `evals` is not `rfl`
  · rw [Nat.zero_add] at hno hl
    rw [hl, final_of_running _ _ _ rfl, h.step]
    refine ⟨_, le_rfl, hno, fun hlt => absurd hlt (lt_irrefl _), ?_⟩
    rw [decide_eq_false (lt_irrefl cfg.iters)]
    exact congrArg (Result.mk _ _ · _) (List.reverse_reverse _)

end program

/-- Best score among iterates `0..k`. -/
noncomputable def runBest (maximize : Bool) (s : ℕ → ℝ) : ℕ → ℝ
  | 0 => s 0
  | k + 1 => if maximize then max (runBest maximize s k) (s (k + 1))
             else min (runBest maximize s k) (s (k + 1))

/-- The documented early-stop condition at iterate `k`: worse than the best so far (iterate `k`
included) by more than the multiplier. -/
def stopCond (maximize : Bool) (μ : ℝ) (s : ℕ → ℝ) (k : ℕ) : Prop :=
  if maximize then s k < runBest maximize s k / μ else s k > runBest maximize s k * μ

theorem runBest_succ_eq (mx : Bool) (s : ℕ → ℝ) (k : ℕ) :
    runBest mx s (k + 1) = if better mx (s (k + 1)) (runBest mx s k) then s (k + 1) else runBest mx s k := by
  cases mx
  · exact (min_comm _ _).trans (min_def_lt _ _)
  · exact max_def_lt _ _

/-- `best_iter` once iterates `0..k` have been compared: an update needs a strict improvement, so it is the first
iterate that attains the running best. -/
noncomputable def argBest (mx : Bool) (s : ℕ → ℝ) : ℕ → ℕ
  | 0 => 0
  | k + 1 => if better mx (s (k + 1)) (runBest mx s k) then k + 1 else argBest mx s k

theorem argBest_le (mx : Bool) (s : ℕ → ℝ) (k : ℕ) : argBest mx s k ≤ k := by
  induction k with
  | zero => exact le_rfl
  | succ k ih => rw [argBest]; split; exacts [le_rfl, Nat.le_succ_of_le ih]

theorem score_argBest (mx : Bool) (s : ℕ → ℝ) (k : ℕ) : s (argBest mx s k) = runBest mx s k := by
  induction k with
  | zero => rfl
  | succ k ih => rw [argBest, runBest_succ_eq]; split; exacts [rfl, ih]

theorem runBest_attained (mx : Bool) (s : ℕ → ℝ) (k : ℕ) : ∃ j ≤ k, s j = runBest mx s k :=
  ⟨argBest mx s k, argBest_le mx s k, score_argBest mx s k⟩

theorem runBest_optimal (mx : Bool) (s : ℕ → ℝ) (k : ℕ) :
    ∀ k' ≤ k, ¬ better mx (s k') (runBest mx s k) := by
  induction k with
  | zero => intro k' hk'; rw [Nat.le_zero.1 hk']; exact better_irrefl mx _
  | succ k ih =>
    intro k' hk'
    rw [runBest_succ_eq]
    rcases Nat.of_le_succ hk' with h | rfl
    · split
      · exact not_better_trans (ih k' h) (better_asymm ‹_›)
      · exact ih k' h
    · split
      · exact better_irrefl mx _
      · assumption

section machine
variable (cfg : Cfg EReal) (s : ℕ → ℝ) {μ : ℝ}

/-- The `best_*` locals after an update at iterate `j`: its score and the live attributes `curAt cfg j`. -/
def snapOf (j : ℕ) : Best EReal :=
  { metric := (s j : ℝ), w := (curAt cfg j).w, m := some (curAt cfg j).m, sq := some (curAt cfg j).sq, iter := some j,
    bw := (curAt cfg j).bw }

/-- The `best_*` locals once the iterates before `i` have been compared (`return_best_params=True`). -/
noncomputable def bestAt : ℕ → Best EReal
  | 0 => (init cfg).best
  | n + 1 => snapOf cfg s (argBest cfg.maximize s n)

theorem bestAt_metric (i : ℕ) : (bestAt cfg s (i + 1)).metric = ((runBest cfg.maximize s i : ℝ) : EReal) :=
  congrArg Real.toEReal (score_argBest cfg.maximize s i)

/-- Every real score passes the update guard against the initial best: `initBest` evaluates to `⊤` when minimising and to
`⊥` when maximising. -/
theorem improves_init (mx : Bool) (a : ℝ) :
    if mx then (initBest (!mx) : EReal) < a else (a : EReal) < initBest (!mx) := by
  cases mx
  · exact EReal.coe_lt_top a
  · exact EReal.bot_lt_coe a

theorem improves_coe (mx : Bool) (a b : ℝ) :
    (if mx then ((b : ℝ) : EReal) < a else (a : EReal) < b) ↔ better mx a b := by
  cases mx <;> exact EReal.coe_lt_coe_iff

/-- The update at iterate `i` takes `bestAt i` to `bestAt (i + 1)`.  At `i = 0` any real beats the initial `±∞`.  At
`i = n + 1` the guard is, once `improves_coe` has removed the coercions, the `if` of `argBest (n + 1)`: a strict
improvement snapshots iterate `n + 1` (`snapOf`, built from the same `curAt`), otherwise `bestAt (n + 1)` is kept. -/
theorem doUpdate_bestAt (i : ℕ) (stp : Bool) :
    doUpdate cfg i ((s i : ℝ) : EReal) (scoredSt cfg i (bestAt cfg s i) stp) =
      scoredSt cfg i (bestAt cfg s (i + 1)) stp := by
  rw [doUpdate_eq]; dsimp only [scoredSt]
  cases i with
  | zero => exact if_pos (improves_init cfg.maximize (s 0))
  | succ n =>
    simp only [bestAt_metric, improves_coe]
    conv_rhs => rw [bestAt, argBest]
    split <;> rfl

/-- `_should_early_stop` on real scores.  In `fit_spec` its `b` is the best *including* the iterate just scored (the update
runs before the test), which is how `stopCond` reads. -/
theorem shouldStop_coe (mx : Bool) (a b : ℝ) :
    shouldStop (!mx) ((a : ℝ) : EReal) ((b : ℝ) : EReal) ((μ : ℝ) : EReal) = true ↔
      (if mx then a < b / μ else a > b * μ) := by
  cases mx <;> simp [shouldStop, ← EReal.coe_mul, ← EReal.coe_div, EReal.coe_lt_coe_iff, mul_comm]  -- also `mult * best`

/-- With the initial `±∞` best the stop test cannot fire: for `μ > 0` the threshold `⊤ * μ` is `⊤` and `⊥ / μ` is `⊥`, and
nothing lies beyond `±∞`. -/
theorem shouldStop_init (hμ : 0 < μ) (mx : Bool) (x : EReal) :
    shouldStop (!mx) x (initBest (!mx)) ((μ : ℝ) : EReal) = false := by
  have hμ' : (0 : EReal) < μ := EReal.coe_pos.2 hμ
  have htop := And.intro (EReal.top_mul_of_pos hμ') (EReal.mul_top_of_pos hμ')  -- the product in either order
  cases mx <;> simp [shouldStop, initBest, HasInf.posInf, HasInf.negInf, htop, EReal.bot_div_of_pos_ne_top hμ']

end machine

/-- What `r = fit cfg s` is with `return_best_params=True` on a real history `s`, in terms of the last iterate evaluated,
`n`.  The selected iterate is `argBest cfg.maximize s n`, the first optimum among `0..n` (`argBest_le`, `score_argBest`,
`runBest_optimal`). -/
structure FitSpec (cfg : Cfg EReal) (s : ℕ → ℝ) (μ : ℝ) (r : Result) (n : ℕ) : Prop where
  le_iters : n ≤ cfg.iters
  evals : r.evals = List.range (n + 1)
  fin : r.fin = curAt cfg (argBest cfg.maximize s n)
  bestIter : r.bestIter = some (argBest cfg.maximize s n)
  noStopBefore : ∀ k < n, ¬ (cfg.earlyStop = true ∧ stopCond cfg.maximize μ s k)
  stopAt : n < cfg.iters → cfg.earlyStop = true ∧ stopCond cfg.maximize μ s n
  stopped_iff : r.stopped = true ↔ n < cfg.iters

theorem fit_spec (cfg : Cfg EReal) (s : ℕ → ℝ) {μ : ℝ} (hrb : cfg.returnBest = true)
    (hmu : cfg.mult = ((μ : ℝ) : EReal)) : ∃ n, FitSpec cfg s μ (fit cfg fun n => ((s n : ℝ) : EReal)) n := by
  obtain ⟨n, hn, hno, hs, hfit⟩ := fit_of_bests (s := fun n => ((s n : ℝ) : EReal)) (B := bestAt cfg s)
    (Stop := fun k => cfg.earlyStop = true ∧ stopCond cfg.maximize μ s k)
    { start := rfl
      step := fun i => by rw [runBody_finalBody, if_pos hrb, doUpdate_bestAt]
      stop := fun i => by rw [bestAt_metric, hmu, Bool.and_eq_true, shouldStop_coe]; rfl
      returnBest := fun _ _ => hrb }
  rw [hfit]
  -- restoring `snapOf j` gives `curAt cfg j` back
  exact ⟨n, { le_iters := hn, evals := rfl, fin := by rw [restored_eq, if_pos hrb]; rfl, bestIter := rfl,
              noStopBefore := hno, stopAt := hs, stopped_iff := decide_eq_true_iff }⟩

theorem fit_last (cfg : Cfg EReal) (s : ℕ → ℝ) {μ : ℝ} (hrb : cfg.returnBest = false)
    (hmu : cfg.mult = ((μ : ℝ) : EReal)) (hμ : 0 < μ) :
    let r := fit cfg (fun n => ((s n : ℝ) : EReal))
    r.fin = curAt cfg cfg.iters ∧ r.evals = List.range (cfg.iters + 1) ∧ r.stopped = false := by
  have hns (i : ℕ) : shouldStop (!cfg.maximize) ((s i : ℝ) : EReal) (init cfg).best.metric cfg.mult = false :=
    hmu ▸ shouldStop_init hμ _ _
  obtain ⟨n, hn, -, hs, hfit⟩ := fit_of_bests (s := fun n => ((s n : ℝ) : EReal)) (B := fun _ => (init cfg).best)
    (Stop := fun _ => False)
    { start := rfl
      step := fun i => by rw [runBody_finalBody, hrb]; rfl
      stop := fun i => by rw [hns, Bool.and_false]; exact iff_false_intro Bool.false_ne_true
      returnBest := fun _ => False.elim }
  obtain rfl : n = cfg.iters := hn.antisymm (not_lt.1 hs)
  rw [hfit]
  exact ⟨by rw [restored_eq, hrb]; rfl, rfl, decide_eq_false (lt_irrefl _)⟩

end Xrfmv.FitLoop
