/- Vectors are `List`s in the models and `Fin n → _` in the Mathlib statements: the passage between the two. -/
import Mathlib.Data.List.GetD

namespace Xrfmv

variable {β γ δ : Type}

theorem zipWith_ofFn (f : β → γ → δ) {n : ℕ} (a : Fin n → β) (b : Fin n → γ) :
    List.zipWith f (List.ofFn a) (List.ofFn b) = List.ofFn fun i => f (a i) (b i) :=
  List.ext_getElem (by simp) fun i _ _ => by simp

theorem getD_of_getElem? {l : List β} {i : ℕ} {x : β} (h : l[i]? = some x) (d : β) : l.getD i d = x := by
  rw [List.getD_eq_getElem?_getD, h, Option.getD_some]

theorem getD_ofFn {n : ℕ} (f : Fin n → β) (i : Fin n) (d : β) : (List.ofFn f).getD i d = f i := by
  simp [List.getD_eq_getElem?_getD]

theorem eq_ofFn_getD {n : ℕ} (l : List β) (h : l.length = n) (d : β) :
    l = List.ofFn fun i : Fin n => l.getD i d := by
  subst h
  exact List.ext_getElem (by simp) fun i _ _ => by simp

theorem getD_map_range (f : ℕ → β) {n i : ℕ} (hi : i < n) (d : β) :
    ((List.range n).map f).getD i d = f i := by
  simp [List.getD_eq_getElem?_getD, hi]

theorem map_getD_range (l : List β) (d : β) : (List.range l.length).map (l.getD · d) = l :=
  List.ext_getElem (by rw [List.length_map, List.length_range]) fun i _ h => by
    rw [List.getElem_map, List.getElem_range, List.getD_eq_getElem l d h]

end Xrfmv
