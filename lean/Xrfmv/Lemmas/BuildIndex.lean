/- The index-level model of `_build_tree` (`Xrfmv.BuildIndex`): slices are `take`/`drop`, indexing by a mask gathers the
entries at the mask's positions, and the two children of a node hold the samples of the first `leftSize` and of the last
`rightSize` ranks of the sort – the sizes of `Xrfmv.BuildSizes`, whose arithmetic is used and not repeated here.

`build` hands each child the mask its regenerated plan names (`leftChild.idx`, …); the lemmas are stated for `.left` /
`.right`, and no step unfolds the plans: they reduce to these values when a lemma is applied to `build`'s let-bound `li`,
`ri` (a changed plan shows as a type mismatch there).

The walks over `build` use `fun_induction`; its cases are the branches of `build` in order: 1 out of fuel, 2 leaf with
refill, 3 root leaf, 4 failed assertion, 5 split.  Case 5 binds `fuel path idx isRoot count`, `n = idx.length`, `hleaf`
(the leaf test fails), the let-bound `count1 r sorted li ri`, `hgood` (no assertion fails), the children's results
`lres rres` and the induction hypotheses `ih1 ih2`; the other cases bind a prefix of these (case 2 ends with the refill
test and the refill's result `km`, case 4 with `hbad`). -/
import Xrfmv.Model.BuildIndex
import Xrfmv.Lemmas.BuildSizes
import Xrfmv.Lemmas.ListOfFn
import Mathlib.Data.List.Perm.Basic
import Mathlib.Order.Basic
import Mathlib.Data.Nat.Basic
import Mathlib.Data.Int.Order.Basic

namespace Xrfmv.BuildIndex
open Xrfmv.Gen.Split Xrfmv.Gen.Refill Xrfmv.BuildSizes

variable {α : Type}

/-- Clamping both cut points to the length changes neither the `drop` nor the `take` after it. -/
theorem take_drop_min (l : List α) (A B : Nat) :
    (l.drop (min A l.length)).take (min B l.length - min A l.length) = (l.drop A).take (B - A) := by
  rw [← List.drop_eq_drop_min, List.take_eq_take_min (i := B - A), List.length_drop, Nat.sub_min_sub_right]
  rcases Nat.le_total A l.length with h | h
  · rw [Nat.min_eq_left h]
  · rw [List.drop_of_length_le h, List.take_nil, List.take_nil]

theorem clamp_eq_cast (x : Int) (n : Nat) : max 0 (min x (n : Int)) = ((min x.toNat n : Nat) : Int) := by omega

/-- `l[lo:hi]` for all bounds: `take`, `drop` and `Int.toNat` clamp as `pySlice` does; like `sliceLen`, a slice is used
through its two bounds only. -/
theorem pySlice_eq (l : List α) (s : Option Int × Option Int) {lo hi : Int}
    (hs : (s.1.getD 0, s.2.getD l.length) = (lo, hi)) : pySlice l s = (l.drop lo.toNat).take (hi.toNat - lo.toNat) := by
  cases hs
  simp only [pySlice, clamp_eq_cast, Int.toNat_natCast, Int.toNat_sub, take_drop_min]

theorem pySlice_eq_take (l : List α) (s : Option Int × Option Int) {hi : Int}
    (hs : (s.1.getD 0, s.2.getD l.length) = (0, hi)) : pySlice l s = l.take hi.toNat := by
  simpa using pySlice_eq l s hs

theorem pySlice_eq_drop (l : List α) (s : Option Int × Option Int) {lo : Int}
    (hs : (s.1.getD 0, s.2.getD l.length) = (lo, (l.length : Int))) : pySlice l s = l.drop lo.toNat := by
  rw [pySlice_eq l s hs, Int.toNat_natCast]
  exact List.take_of_length_le (by rw [List.length_drop])

theorem pySlice_prefix (l : List α) (k : Int) : pySlice l (none, some k) = l.take k.toNat :=
  pySlice_eq_take l _ rfl

theorem pySlice_suffix (l : List α) (k : Int) : pySlice l (some k, none) = l.drop k.toNat :=
  pySlice_eq_drop l _ rfl

theorem selectBy_eq_map (p : Nat → Bool) (xs : List α) (d : α) :
    selectBy p xs = ((List.range xs.length).filter p).map (xs.getD · d) := by
  have h : xs.zipIdx = (List.range xs.length).map fun i => (xs.getD i d, i) :=
    List.ext_getElem (by rw [List.length_zipIdx, List.length_map, List.length_range]) fun i h1 h2 => by
      rw [List.getElem_zipIdx, List.getElem_map, List.getElem_range,
        List.getD_eq_getElem xs d (by simpa using h1), Nat.zero_add]
  rw [selectBy, h, List.filter_map, List.map_map]; rfl

theorem mem_selectBy (p : Nat → Bool) (xs : List α) (x : α) :
    x ∈ selectBy p xs ↔ ∃ i, xs[i]? = some x ∧ p i = true := by
  simp only [selectBy, List.mem_map, List.mem_filter, Prod.exists, List.mem_zipIdx_iff_getElem?, exists_and_right,
    exists_eq_right]

theorem selectBy_sublist (p : Nat → Bool) (xs : List α) : (selectBy p xs).Sublist xs := by
  simpa [selectBy] using (List.filter_sublist (l := xs.zipIdx) (p := fun xi => p xi.2)).map Prod.fst

/-- Indexing by a mask that is `True` exactly on the positions `S` gathers the entries at `S`, up to order
(`X[mask]` against `X[indices]` after `mask[indices] = True`). -/
theorem selectBy_perm_of_mem (p : Nat → Bool) (S : List Nat) (xs : List α) (d : α) (hp : ∀ i, p i = true ↔ i ∈ S)
    (hnd : S.Nodup) (hlt : ∀ i ∈ S, i < xs.length) : (selectBy p xs).Perm (S.map (xs.getD · d)) := by
  rw [selectBy_eq_map _ xs d]
  refine List.Perm.map _ ((List.perm_ext_iff_of_nodup (List.nodup_range.filter _) hnd).mpr fun i => ?_)
  rw [List.mem_filter, List.mem_range, hp]
  exact and_iff_right_of_imp (hlt i)

/-- Contract of `torch.sort` / `torch.randperm` as far as the index bookkeeping needs it. -/
def IsPermOfRange (l : List Nat) (n : Nat) : Prop := l.Perm (List.range n)

theorem IsPermOfRange.length {l : List Nat} {n : Nat} (h : IsPermOfRange l n) : l.length = n :=
  h.length_eq.trans List.length_range

theorem IsPermOfRange.nodup {l : List Nat} {n : Nat} (h : IsPermOfRange l n) : l.Nodup :=
  h.nodup_iff.mpr List.nodup_range

theorem IsPermOfRange.mem {l : List Nat} {n : Nat} (h : IsPermOfRange l n) (i : Nat) : i ∈ l ↔ i < n :=
  h.mem_iff.trans List.mem_range

theorem IsPermOfRange.gather {l : List Nat} {xs : List α} (h : IsPermOfRange l xs.length) (d : α) :
    (l.map (xs.getD · d)).Perm xs := by
  have := h.map (xs.getD · d)
  rwa [map_getD_range] at this

/-- The three parts of the sort as `take`/`drop`: the left part ends where the right child begins, at rank
`n - rightSize`; the band ends where the left child ends, at rank `leftSize`. -/
theorem pySlice_part (sorted : List Nat) (n : Nat) (r : Int) (p : Part) :
    pySlice sorted (sliceOf (counts n r) p) =
      match p with
      | .leftUnique => sorted.take (n - (rightSize n r).toNat)
      | .overlap => (sorted.drop (n - (rightSize n r).toNat)).take ((leftSize n r).toNat - (n - (rightSize n r).toNat))
      | .rightUnique => sorted.drop (leftSize n r).toNat := by
  have hn := Int.natCast_nonneg n
  obtain ⟨h0, h1, h2⟩ := counts_bounds n r hn
  -- in terms of `counts` the two ranks of the statement are `overlapStart` (`= n - (n - overlapStart)`) and `overlapEnd`
  rw [rightSize_eq n r hn, Int.toNat_sub'' hn h0, Int.toNat_natCast, Nat.sub_sub_self (Int.toNat_le.mpr (h1.trans h2)),
    leftSize_eq n r hn]
  cases p
  · exact pySlice_eq_take sorted _ (sliceOf_spec n r _ hn .leftUnique)
  · exact pySlice_eq sorted _ (sliceOf_spec n r _ hn .overlap)
  · exact pySlice_eq_drop sorted _ (sliceOf_spec n r _ hn .rightUnique)

theorem maskSel_left (sorted : List Nat) (n : Nat) (r : Int) :
    (maskSel n sorted r leftMaskParts).Perm (sorted.take (leftSize n r).toNat) := by
  refine (leftMaskParts_perm.flatMap_right _).trans (.of_eq ?_)
  simp only [List.flatMap_cons, List.flatMap_nil, List.append_nil, pySlice_part]
  rw [← List.take_add, Nat.add_sub_cancel' (rightStart_le_leftSize n r)]

theorem maskSel_right (sorted : List Nat) (n : Nat) (r : Int) :
    (maskSel n sorted r rightMaskParts).Perm (sorted.drop (n - (rightSize n r).toNat)) := by
  refine (rightMaskParts_perm.flatMap_right _).trans (.of_eq ?_)
  simp only [List.flatMap_cons, List.flatMap_nil, List.append_nil, pySlice_part]
  -- the right part is the tail from `n - rightSize` without the band: `drop_drop` backwards, then `take_append_drop`
  rw [← Nat.add_sub_cancel' (rightStart_le_leftSize n r), ← List.drop_drop, Nat.add_sub_cancel_left,
    List.take_append_drop]

theorem sideMask_left (sorted : List Nat) (n : Nat) (r : Int) (i : Nat) :
    sideMask n sorted r .left i = true ↔ i ∈ sorted.take (leftSize n r).toNat := by
  simp only [sideMask, List.contains_iff_mem, (maskSel_left sorted n r).mem_iff]

theorem sideMask_right (sorted : List Nat) (n : Nat) (r : Int) (i : Nat) :
    sideMask n sorted r .right i = true ↔ i ∈ sorted.drop (n - (rightSize n r).toNat) := by
  simp only [sideMask, List.contains_iff_mem, (maskSel_right sorted n r).mem_iff]

theorem child_perm (idx sorted : List Nat) (r : Int) (hs : IsPermOfRange sorted idx.length) :
    (selectBy (sideMask idx.length sorted r .left) idx).Perm
      ((sorted.take (leftSize idx.length r).toNat).map (idx.getD · 0)) ∧
    (selectBy (sideMask idx.length sorted r .right) idx).Perm
      ((sorted.drop (idx.length - (rightSize idx.length r).toNat)).map (idx.getD · 0)) :=
  ⟨selectBy_perm_of_mem _ _ idx 0 (sideMask_left sorted _ r) ((List.take_sublist _ _).nodup hs.nodup)
      fun i hi => (hs.mem i).mp (List.mem_of_mem_take hi),
    selectBy_perm_of_mem _ _ idx 0 (sideMask_right sorted _ r) ((List.drop_sublist _ _).nodup hs.nodup)
      fun i hi => (hs.mem i).mp (List.mem_of_mem_drop hi)⟩

theorem child_lengths (idx sorted : List Nat) (r : Int) (hs : IsPermOfRange sorted idx.length) :
    (selectBy (sideMask idx.length sorted r .left) idx).length = (leftSize idx.length r).toNat ∧
    (selectBy (sideMask idx.length sorted r .right) idx).length = (rightSize idx.length r).toNat := by
  obtain ⟨hl, hr⟩ := child_perm idx sorted r hs
  rw [hl.length_eq, hr.length_eq, List.length_map, List.length_map, List.length_take, List.length_drop, hs.length]
  exact ⟨Nat.min_eq_left (sizes_le _ r).1, Nat.sub_sub_self (sizes_le _ r).2⟩

/-- The assertion of the index-level split fails exactly when the size skeleton's does (`BuildSizes.build_node`). -/
theorem split_fails_iff (idx sorted : List Nat) (r : Int) (hs : IsPermOfRange sorted idx.length) :
    (idx.length = 0 ∨ selectBy (sideMask idx.length sorted r .left) idx = [] ∨
      selectBy (sideMask idx.length sorted r .right) idx = []) ↔ (rightSize idx.length r).toNat = 0 := by
  obtain ⟨hl, hr⟩ := child_lengths idx sorted r hs
  have := sizes_nat idx.length r
  rw [← List.length_eq_zero_iff, ← List.length_eq_zero_iff, hl, hr]
  omega

theorem split_perm (idx sorted : List Nat) (r : Int) (hr : r ≤ 0) (hs : IsPermOfRange sorted idx.length) :
    (selectBy (sideMask idx.length sorted r .left) idx ++ selectBy (sideMask idx.length sorted r .right) idx).Perm idx := by
  obtain ⟨hl, hrt⟩ := child_perm idx sorted r hs
  rw [Nat.sub_eq_of_eq_add (sizes_of_nonpos idx.length r hr).symm] at hrt
  refine (hl.append hrt).trans ?_
  rw [← List.map_append, List.take_append_drop]
  exact hs.gather 0

theorem split_cover (idx sorted : List Nat) (r : Int) (hs : IsPermOfRange sorted idx.length) (x : Nat) (hx : x ∈ idx) :
    x ∈ selectBy (sideMask idx.length sorted r .left) idx ∨ x ∈ selectBy (sideMask idx.length sorted r .right) idx := by
  obtain ⟨i, hi, hget⟩ := List.mem_iff_getElem.mp hx
  have hg : idx[i]? = some x := by rw [List.getElem?_eq_getElem hi, hget]
  have hmem : i ∈ sorted := (hs.mem i).mpr hi
  rw [← List.take_append_drop (leftSize idx.length r).toNat sorted, List.mem_append] at hmem
  rcases hmem with h | h
  · exact .inl ((mem_selectBy _ _ _).mpr ⟨i, hg, (sideMask_left ..).mpr h⟩)
  · exact .inr ((mem_selectBy _ _ _).mpr ⟨i, hg, (sideMask_right ..).mpr
      (List.drop_subset_drop_left _ (rightStart_le_leftSize idx.length r) h)⟩)

theorem refill_perm (cfg : Cfg) (O : Oracles) (path : List Bool) (idx : List Nat)
    (hp : IsPermOfRange (O.permO path idx.length) idx.length) :
    ((refill cfg O path idx).1 ++ (refill cfg O path idx).2).Perm idx := by
  unfold refill
  simp only
  split
  · simp only [pySlice_prefix, pySlice_suffix, ← List.map_append]
    exact (List.perm_append_comm.map _).trans (by rw [List.take_append_drop]; exact hp.gather 0)
  · simp

/-- The regenerated guard and count of `_refill_val_set`, as far as `refill_moved_le` uses them; `simp` evaluates a negated
comparison, `omega` a shifted one or a count wrapped in `max(0, …)`. -/
theorem le_of_refillGuard {a b : Int} (h : refillGuard a b = true) : a ≤ b := by
  simp [refillGuard] at h; omega

theorem toNat_numValToAdd_le (m v f : Int) : ((numValToAdd m v f).toNat : Int) ≤ max 0 (min (m - v) f) := by
  simp only [numValToAdd]; omega

theorem refill_moved_le (cfg : Cfg) (O : Oracles) (path : List Bool) (idx : List Nat) :
    ((refill cfg O path idx).2.length : Int) ≤
      max 0 (min ((cfg.minVal : Int) - (O.nvalO path : Int)) (O.frac idx.length)) ∧
    (cfg.minVal < O.nvalO path → (refill cfg O path idx).2 = []) := by
  unfold refill
  simp only
  split
  · rename_i hg
    have := le_of_refillGuard hg
    refine ⟨?_, fun hlt => by omega⟩
    simp only [pySlice_prefix, List.length_map]
    exact (Int.ofNat_le.mpr (List.length_take_le _ _)).trans (toNat_numValToAdd_le ..)
  · exact ⟨Int.le_max_left 0 _, fun _ => rfl⟩

/-- The oracle contracts: `torch.sort` and `torch.randperm` return permutations of `range n`. -/
structure Contracts (O : Oracles) : Prop where
  sort : ∀ path n, IsPermOfRange (O.sortO path n) n
  perm : ∀ path n, IsPermOfRange (O.permO path n) n

theorem all_leaf (p : List Bool) (c m : List Nat) : (ITree.leaf p c m).all = c ++ m := by
  simp only [ITree.all, ITree.leaves, List.flatMap_cons, List.flatMap_nil, List.append_nil]

theorem all_node (l r : ITree) : (ITree.node l r).all = l.all ++ r.all := by
  simp only [ITree.all, ITree.leaves, List.flatMap_append]

theorem build_all_perm (cfg : Cfg) (O : Oracles) (hc : Contracts O) (hz : ∀ n, O.ov n = 0)
    (fuel : Nat) (path : List Bool) (idx : List Nat) (isRoot : Bool) (count : Nat) :
    (build cfg O fuel path idx isRoot count).1.ok = true →
      (build cfg O fuel path idx isRoot count).1.all.Perm idx := by
  fun_induction build cfg O fuel path idx isRoot count with
  | case1 | case4 => intro h; simp [ITree.ok] at h
  | case2 => intro _; rw [all_leaf]; exact refill_perm cfg O _ _ (hc.perm _ _)
  | case3 => intro _; rw [all_leaf, List.append_nil]
  | case5 fuel path idx isRoot count n _ count1 r sorted li ri _ lres rres ih1 ih2 =>
    intro hok
    simp only [ITree.ok, Bool.and_eq_true] at hok
    rw [all_node]
    exact ((ih1 hok.1).append (ih2 hok.2)).trans (split_perm idx sorted r (Int.le_of_eq (hz n)) (hc.sort path n))

theorem build_all_cover (cfg : Cfg) (O : Oracles) (hc : Contracts O)
    (fuel : Nat) (path : List Bool) (idx : List Nat) (isRoot : Bool) (count : Nat) :
    (build cfg O fuel path idx isRoot count).1.ok = true →
      ∀ x ∈ idx, x ∈ (build cfg O fuel path idx isRoot count).1.all := by
  fun_induction build cfg O fuel path idx isRoot count with
  | case1 | case4 => intro h; simp [ITree.ok] at h
  | case2 => intro _ x hx; rw [all_leaf]; exact (refill_perm cfg O _ _ (hc.perm _ _)).mem_iff.mpr hx
  | case3 => intro _ x hx; rwa [all_leaf, List.append_nil]
  | case5 fuel path idx isRoot count n _ count1 r sorted li ri _ lres rres ih1 ih2 =>
    intro hok x hx
    simp only [ITree.ok, Bool.and_eq_true] at hok
    rw [all_node, List.mem_append]
    exact (split_cover idx sorted r (hc.sort path n) x hx).imp (ih1 hok.1 x) (ih2 hok.2 x)

/-- The bound on the number of moved samples, per leaf. -/
def MovedBound (cfg : Cfg) (O : Oracles) (l : List Bool × List Nat × List Nat) : Prop :=
  ((l.2.2.length : Int) ≤
      max 0 (min ((cfg.minVal : Int) - (O.nvalO l.1 : Int)) (O.frac (l.2.1.length + l.2.2.length)))) ∧
  (cfg.minVal < O.nvalO l.1 → l.2.2 = [])

/-- What a leaf holds: its centers and moved samples are, up to order, some of the node's samples, each at most as
often as the node has it, and the moved ones obey the bound. -/
theorem build_leaf_spec (cfg : Cfg) (O : Oracles) (hc : Contracts O)
    (fuel : Nat) (path : List Bool) (idx : List Nat) (isRoot : Bool) (count : Nat) :
    ∀ l ∈ (build cfg O fuel path idx isRoot count).1.leaves, (l.2.1 ++ l.2.2).Subperm idx ∧ MovedBound cfg O l := by
  fun_induction build cfg O fuel path idx isRoot count with
  | case1 | case4 => simp [ITree.leaves]
  | case2 fuel path idx isRoot count n _ _ km =>
    have hp := refill_perm cfg O path idx (hc.perm _ _)
    have hlen := hp.length_eq
    rw [List.length_append] at hlen
    simp only [ITree.leaves, List.mem_singleton, forall_eq, MovedBound, km, hlen]
    exact ⟨hp.subperm, refill_moved_le cfg O path idx⟩
  | case3 fuel path idx =>
    simp only [ITree.leaves, List.mem_singleton, forall_eq, MovedBound, List.append_nil]
    exact ⟨.refl _, Int.le_max_left 0 _, fun _ => trivial⟩
  | case5 fuel path idx isRoot count n _ count1 r sorted li ri _ lres rres ih1 ih2 =>
    intro l hl
    simp only [ITree.leaves, List.mem_append] at hl
    exact hl.elim (fun h => (ih1 l h).imp_left (·.trans (selectBy_sublist _ idx).subperm))
      fun h => (ih2 l h).imp_left (·.trans (selectBy_sublist _ idx).subperm)

theorem build_leaf_nodup (cfg : Cfg) (O : Oracles) (hc : Contracts O)
    (fuel : Nat) (path : List Bool) (idx : List Nat) (isRoot : Bool) (count : Nat) (hnd : idx.Nodup) :
    ∀ l ∈ (build cfg O fuel path idx isRoot count).1.leaves, (l.2.1 ++ l.2.2).Nodup := fun l hl =>
  -- `Subperm`: a permutation of a sublist
  let ⟨_, hp, hs⟩ := (build_leaf_spec cfg O hc fuel path idx isRoot count l hl).1
  hp.nodup_iff.mp (hs.nodup hnd)

end Xrfmv.BuildIndex
