/-
C04 per coordinate at `ℝ`: the closed-form gradients of `Xrfmv/Model/Grad.lean` are the derivatives of the kernel
values (`IsPartialAt`: `HasDerivAt` with the other coordinates fixed), each kernel through its separable form (`SepForm`).

To add a kernel: an arm of `CoordOK`, `kNew_sepForm`, an arm of `pair_sepForm`; `pair_isPartialAt`, `pair_isGradAt`,
`predictRow_isGradAt` then need nothing.  Downstream: the simp lists of `pairGrad_length` and `self_term_zero`; an arm of
`allCoordOK_of_abs_ge` (the wildcard arm of `GeneralPosition` covers the new kernel unasked); for C19 `maskQ`, `ScaleOK`,
`pairGrad_scale`.
-/
import Xrfmv.Lemmas.GradBasic
import Mathlib.Analysis.Calculus.Deriv.Abs
import Mathlib.Analysis.SpecialFunctions.Pow.Deriv

namespace Xrfmv.Grad

theorem absPow_hasDerivAt (q δ : ℝ) (hδ : δ ≠ 0) :
    HasDerivAt (fun x : ℝ => |x| ^ q) (q * sgnPow (q - 1) δ) δ := by
  have h2 := (hasDerivAt_abs hδ).rpow_const (p := q) (Or.inl (abs_ne_zero.2 hδ))
  refine h2.congr_deriv ?_
  rw [sgnPow_eq]; ring

/-- The Laplace profile `exp(−g/c)` of a differentiable quantity `g` (`|s|^q`, `(√r)^q`, `Σ|Δ|^q`, `‖Δ‖_p^q`). -/
theorem laplace_hasDerivAt {g : ℝ → ℝ} {g' x : ℝ} (c : ℝ) (hg : HasDerivAt g g' x) :
    HasDerivAt (fun s => Real.exp (-(g s) / c)) (Real.exp (-(g x) / c) * (-g' / c)) x :=
  (hg.neg.div_const c).exp

theorem profile_hasDerivAt_sgnPow (L q t : ℝ) (ht : t ≠ 0) :
    HasDerivAt (fun s => profile L q s) (profile L q t * (-(q / L ^ q)) * sgnPow (q - 1) t) t :=
  (laplace_hasDerivAt (L ^ q) (absPow_hasDerivAt q t ht)).congr_deriv (by
    simp only [profile, rpow_real, abs_real, exp_real]; ring)

theorem radial_hasDerivAt (L q r : ℝ) (hr : 0 < r) :
    HasDerivAt (fun x => radial L q x) (radial L q r * (-(q / L ^ q)) * Real.sqrt r ^ (q - 2) / 2) r := by
  have hs : 0 < Real.sqrt r := Real.sqrt_pos.2 hr
  have h1 := (Real.hasDerivAt_sqrt hr.ne').rpow_const (p := q) (Or.inl hs.ne')
  refine (laplace_hasDerivAt (L ^ q) h1).congr_deriv ?_
  rw [show q - 2 = (q - 1) - 1 by ring, Real.rpow_sub_one hs.ne' (q - 1)]
  simp only [radial, rpow_real, exp_real, sqrt_real]
  ring

/-- Outer function of the L2 kernels in `r = ‖Δ‖²`, the derivative written with the factor `M_ij` of the code. -/
theorem l2Outer_hasDerivAt (P : Params ℝ) {r : ℝ} (hr : 0 < r) :
    HasDerivAt (radial P.L P.q) (l2Factor P (Real.sqrt r) / 2) r := by
  refine (radial_hasDerivAt P.L P.q r hr).congr_deriv ?_
  simp only [l2Factor, radial, rpow_real, exp_real, sqrt_real]
  ring

/-- Outer function of the Lpq kernel in `S = Σ|Δ|^p` (`D = S^{1/p}`). -/
theorem lpqOuter_hasDerivAt (L q p : ℝ) (hp : p ≠ 0) {S : ℝ} (hS : 0 < S) :
    HasDerivAt (fun s : ℝ => Real.exp (-((s ^ (1 / p)) ^ q) / L ^ q))
      (Real.exp (-((S ^ (1 / p)) ^ q) / L ^ q) * (-(q / L ^ q)) * (S ^ (1 / p)) ^ (q - p) / p) S := by
  have hD : 0 < S ^ (1 / p) := Real.rpow_pos_of_pos hS _
  have h1 := ((hasDerivAt_id' S).rpow_const (p := 1 / p) (Or.inl hS.ne')).rpow_const (p := q) (Or.inl hD.ne')
  refine (laplace_hasDerivAt (L ^ q) h1).congr_deriv ?_
  have e1 : S ^ (1 / p - 1) = (S ^ (1 / p)) ^ (1 - p) := by
    rw [← Real.rpow_mul hS.le, mul_sub, mul_one, one_div_mul_cancel hp]
  rw [e1, show q - p = (1 - p) + (q - 1) by ring, Real.rpow_add hD]
  ring

/-- Outer function of the sum-power kernel in `S = Σ_d e_d` (`m` coordinates). -/
theorem sumPowerOuter_hasDerivAt (c m pw : ℝ) {S : ℝ} (hs : (1 - c) * (S / m) + c ≠ 0) :
    HasDerivAt (fun s : ℝ => ((1 - c) * (s / m) + c) ^ pw)
      (pw * ((1 - c) * (S / m) + c) ^ (pw - 1) * ((1 - c) / m)) S := by
  have h := ((((hasDerivAt_id' S).div_const m).const_mul (1 - c)).add_const c).rpow_const (p := pw) (Or.inl hs)
  exact h.congr_deriv (by ring)

/-- `clamp_(min=0)` is inactive near a point where the clamped value is positive. -/
theorem clamp_eventuallyEq {α : Type} [TopologicalSpace α] {f : α → ℝ} {z : α} (hf : ContinuousAt f z)
    (hpos : 0 < (if f z < 0 then 0 else f z)) :
    (fun w => if f w < 0 then 0 else f w) =ᶠ[nhds z] f := by
  have h0 : 0 < f z := by
    split_ifs at hpos with h
    · exact absurd hpos (lt_irrefl 0)
    · exact hpos
  filter_upwards [hf.eventually (lt_mem_nhds h0)] with w hw
  exact if_neg (not_lt.2 hw.le)

theorem coordSum_hasDerivAt (φ : ℝ → ℝ) {φ' : ℝ} {vpre vpost upre upost : List ℝ} {a t : ℝ}
    (h : vpre.length = upre.length) (hφ : HasDerivAt φ φ' (t - a)) :
    HasDerivAt (fun s => vsum ((vsub (vpre ++ s :: vpost) (upre ++ a :: upost)).map φ)) φ' t :=
  (((hφ.comp_sub_const t a).add_const (vsum ((vsub vpost upost).map φ))).const_add
    (vsum ((vsub vpre upre).map φ))).congr_of_eventuallyEq
    (Filter.Eventually.of_forall fun s => coordSum_eq φ a s h)

/-- Separable form of `f = k(u, ·)` and of the row `g` the gradient code returns at `v`: on lists as long as `v` the value
is `Φ(Σ_d ψ(·_d − u_d))`, the row is `Δ ↦ F(Δ_d)`, and `F = Φ'·ψ'` at every difference `δ` with `ok δ`.  This is all the
chain rule needs, along one coordinate (`SepForm.isPartialAt`) or on `ℝⁿ` (`SepForm.isGradAt`).  An `inductive`, since a
structure in `Prop` cannot have the data fields `Φ ψ F Φ'`. -/
inductive SepForm (ok : ℝ → Prop) (f : List ℝ → ℝ) (g u v : List ℝ) : Prop
  | intro (Φ ψ F : ℝ → ℝ) (Φ' : ℝ)
      (val : ∀ w : List ℝ, w.length = v.length → f w = Φ (vsum ((vsub w u).map ψ)))
      (row : g = (vsub v u).map F)
      (outer : HasDerivAt Φ Φ' (vsum ((vsub v u).map ψ)))
      (inner : ∀ δ, ok δ → ∃ ψ', HasDerivAt ψ ψ' δ ∧ F δ = Φ' * ψ')

/-- The entry of the list `g` at the position after `vpre` is the derivative at `t` of `f` along that coordinate, the
other coordinates fixed at `vpre`, `vpost`.  The `…_partial` theorems of `Props/C04.lean` spell this out. -/
def IsPartialAt (f : List ℝ → ℝ) (g vpre vpost : List ℝ) (t : ℝ) : Prop :=
  ∃ gd, g[vpre.length]? = some gd ∧ HasDerivAt (fun s => f (vpre ++ s :: vpost)) gd t

theorem SepForm.isPartialAt {ok : ℝ → Prop} {f : List ℝ → ℝ} {g vpre vpost upre upost : List ℝ} {a t : ℝ}
    (hs : SepForm ok f g (upre ++ a :: upost) (vpre ++ t :: vpost)) (h : vpre.length = upre.length) (hok : ok (t - a)) :
    IsPartialAt f g vpre vpost t := by
  obtain ⟨Φ, ψ, F, Φ', val, rfl, hΦ, inner⟩ := hs
  obtain ⟨ψ', hψ, hF⟩ := inner _ hok
  refine ⟨_, map_vsub_entry F a t h, ?_⟩
  rw [funext fun s => val (vpre ++ s :: vpost) (by simp only [List.length_append, List.length_cons]), hF]
  -- not `hΦ.comp t …`: the same term at about ten times the elaboration work (the trap at the head of `Lemmas/GradFull.lean`)
  exact HasDerivAt.comp t hΦ (coordSum_hasDerivAt ψ h hψ)

/-- "General position" of the point w.r.t. one center, for the coordinate that varies (`δ = t − a`): the mask of the
kernel does not fire and (coordinate-wise kernels) the coordinate is off the kink. -/
def CoordOK (k : Kind) (P : Params ℝ) (u v : List ℝ) (δ : ℝ) : Prop :=
  match k with
  | .l2 => ¬ (Real.sqrt (sqDist u v) < P.eps)
  | .light => ¬ (Real.sqrt (sqDist u v) < P.eps)
  | .prod => δ ≠ 0 ∧ ¬ (pNorm P.q (vsub v u) < P.eps)
  | .lpq => δ ≠ 0 ∧ ¬ (pNorm P.p (vsub v u) < P.eps)
  | .sumPower => ¬ (|δ| < P.eps)

theorem kL2_sepForm (P : Params ℝ) (heps : 0 < P.eps) (u v : List ℝ) (hne : ¬ Real.sqrt (sqDist u v) < P.eps) :
    SepForm (CoordOK .l2 P u v) (kL2 P u) (gradL2 P u v) u v :=
  have hr : 0 < sqDist u v := Real.sqrt_pos.1 (heps.trans_le (not_lt.1 hne))
  .intro (Φ := radial P.L P.q) (ψ := fun x => x * x) (F := fun δ => l2Factor P (Real.sqrt (sqDist u v)) * δ)
    (val := fun _ _ => rfl) (row := if_neg hne) (outer := l2Outer_hasDerivAt P hr)
    (inner := fun δ _ => ⟨_, (hasDerivAt_id' δ).mul (hasDerivAt_id' δ), by simp only [sqDist]; ring⟩)

theorem kProd_sepForm (P : Params ℝ) (u v : List ℝ) (hne : ¬ pNorm P.q (vsub v u) < P.eps) :
    SepForm (CoordOK .prod P u v) (kProd P u) (gradProd P u v) u v :=
  .intro (Φ := fun S => Real.exp (-S / P.L ^ P.q)) (ψ := fun x => |x| ^ P.q)
    (F := fun δ => kProd P u v * (-(P.q / P.L ^ P.q)) * sgnPow (P.q - 1) δ)
    (val := fun _ _ => rfl) (row := if_neg hne) (outer := laplace_hasDerivAt _ (hasDerivAt_id' _))
    (inner := fun δ hδ => ⟨_, absPow_hasDerivAt P.q δ hδ.1,
      by simp only [kProd, pSum, rpow_real, abs_real, exp_real]; ring⟩)

theorem kLpq_sepForm (P : Params ℝ) (hp : 0 < P.p) (u v : List ℝ) (hS : 0 < pSum P.p (vsub v u))
    (hne : ¬ pNorm P.p (vsub v u) < P.eps) :
    SepForm (CoordOK .lpq P u v) (kLpq P u) (gradLpq P u v) u v :=
  .intro (Φ := fun S : ℝ => Real.exp (-((S ^ (1 / P.p)) ^ P.q) / P.L ^ P.q)) (ψ := fun x => |x| ^ P.p)
    (F := fun δ => kLpq P u v * (-(P.q / P.L ^ P.q)) * pNorm P.p (vsub v u) ^ (P.q - P.p) * sgnPow (P.p - 1) δ)
    (val := fun _ _ => rfl) (row := if_neg hne) (outer := lpqOuter_hasDerivAt P.L P.q P.p hp.ne' hS)
    -- `F δ = W·σ`, `Φ' = W/p`, `ψ' = p·σ` with `W = k·(−q/L^q)·D^{q−p}`, `σ = sgnPow (p−1) δ`
    (inner := fun δ hδ => ⟨_, absPow_hasDerivAt P.p δ hδ.1, by rw [← mul_assoc, div_mul_cancel₀ _ hp.ne']; rfl⟩)

theorem kSumPower_sepForm (P : Params ℝ) (heps : 0 < P.eps) (hc0 : 0 ≤ P.cmix) (hc1 : P.cmix < 1) (u v : List ℝ)
    (hv : vsub v u ≠ []) :
    SepForm (CoordOK .sumPower P u v) (kSumPower P u) (gradSumPower P u v) u v :=
  have hs := sBracket_pos P hc0 hc1 _ hv
  -- the number of coordinates is that of `v`, so that `Φ` is a function of the sum alone
  .intro (Φ := fun S : ℝ => ((1 - P.cmix) * (S / lenS (vsub v u)) + P.cmix) ^ P.power) (ψ := profile P.L P.q)
    (F := fun δ => if |δ| < P.eps then 0 else P.power * sBracket P (vsub v u) ^ (P.power - 1) *
      ((1 - P.cmix) / lenS (vsub v u)) * profile P.L P.q δ * (-(P.q / P.L ^ P.q)) * sgnPow (P.q - 1) δ)
    (val := fun w hw => by simp only [kSumPower, sBracket, lenS_eq_length, vsub, List.length_zipWith, hw, rpow_real])
    (row := rfl) (outer := sumPowerOuter_hasDerivAt _ _ _ hs.ne')
    (inner := fun δ hδ => ⟨_, profile_hasDerivAt_sgnPow P.L P.q δ fun h0 => hδ (by rw [h0, abs_zero]; exact heps),
      by simp only [if_neg hδ, sBracket]; ring⟩)

/-- Every kernel in separable form, from one coordinate `δ` of `v − u` with `CoordOK`: it carries the mask condition,
which does not depend on the coordinate, and shows that `v − u` is non-empty (sum-power) and non-zero (Lpq). -/
theorem pair_sepForm (k : Kind) (P : Params ℝ) (heps : 0 < P.eps) (hp : 0 < P.p) (hc0 : 0 ≤ P.cmix) (hc1 : P.cmix < 1)
    (u v : List ℝ) {δ : ℝ} (hm : δ ∈ vsub v u) (hok : CoordOK k P u v δ) :
    SepForm (CoordOK k P u v) (kval k P u) (pairGrad k P u v) u v := by
  cases k with
  | l2 | light => exact kL2_sepForm P heps u v hok
  | prod => exact kProd_sepForm P u v hok.2
  | lpq => exact kLpq_sepForm P hp u v (pSum_pos_of_mem P.p hm hok.1) hok.2
  | sumPower => exact kSumPower_sepForm P heps hc0 hc1 u v (List.ne_nil_of_mem hm)

theorem pair_isPartialAt (k : Kind) (P : Params ℝ) (heps : 0 < P.eps) (hp : 0 < P.p) (hc0 : 0 ≤ P.cmix) (hc1 : P.cmix < 1)
    {vpre vpost upre upost : List ℝ} {a t : ℝ} (h : vpre.length = upre.length)
    (hok : CoordOK k P (upre ++ a :: upost) (vpre ++ t :: vpost) (t - a)) :
    IsPartialAt (kval k P (upre ++ a :: upost)) (pairGrad k P (upre ++ a :: upost) (vpre ++ t :: vpost)) vpre vpost t :=
  (pair_sepForm k P heps hp hc0 hc1 _ _ (mem_vsub_entry a t h) hok).isPartialAt h hok

end Xrfmv.Grad
