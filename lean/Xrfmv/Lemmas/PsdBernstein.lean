/- The Bernstein representation `C_a · r^a = ∫₀^∞ t^{−1−a} (1 − e^{−t r}) dt` (`0 < a < 1`, `r ≥ 0`). -/
import Mathlib.Analysis.SpecialFunctions.ImproperIntegrals

namespace Xrfmv.Psd
open MeasureTheory Set Real

/-- the integrand at `r = 1` -/
noncomputable def bern (a s : ℝ) : ℝ := s ^ (-1 - a) * (1 - Real.exp (-s))

theorem bern_pos (a : ℝ) {s : ℝ} (hs : 0 < s) : 0 < bern a s :=
  mul_pos (rpow_pos_of_pos hs _) (sub_pos.2 (exp_lt_one_iff.2 (neg_lt_zero.2 hs)))

theorem bern_continuousOn (a : ℝ) : ContinuousOn (bern a) (Ioi 0) :=
  (continuousOn_id.rpow_const fun _ hx => Or.inl (ne_of_gt hx)).mul (by fun_prop)

theorem bern_integrableOn {a : ℝ} (h0 : 0 < a) (h1 : a < 1) : IntegrableOn (bern a) (Ioi 0) := by
  -- `bern a` is non-negative and continuous on `(0, ∞)`: a bound by an integrable function on a piece suffices
  have dom : ∀ {S : Set ℝ} {g : ℝ → ℝ}, MeasurableSet S → S ⊆ Ioi 0 → IntegrableOn g S →
      (∀ s ∈ S, bern a s ≤ g s) → IntegrableOn (bern a) S := fun hS hpos hg hle =>
    Integrable.mono' hg (((bern_continuousOn a).mono hpos).aestronglyMeasurable hS)
      ((ae_restrict_iff' hS).mpr (Filter.Eventually.of_forall fun s hs => by
        rw [norm_of_nonneg (bern_pos a (hpos hs)).le]; exact hle s hs))
  rw [← Ioc_union_Ioi_eq_Ioi (zero_le_one' ℝ)]
  refine IntegrableOn.union ?_ ?_
  · -- near 0: `1 − e^{−s} ≤ s`, so `bern a s ≤ s^(−a)`
    refine dom measurableSet_Ioc (fun x hx => hx.1)
      ((intervalIntegrable_iff_integrableOn_Ioc_of_le zero_le_one).mp
        (intervalIntegral.intervalIntegrable_rpow' (neg_lt_neg h1))) fun s hs => ?_
    calc bern a s ≤ s ^ (-1 - a) * s :=
          mul_le_mul_of_nonneg_left (sub_le_comm.1 (one_sub_le_exp_neg s)) (rpow_nonneg hs.1.le _)
      _ = s ^ (-a) := by rw [show -a = -1 - a + 1 by ring, rpow_add hs.1, rpow_one]
  · -- near ∞: `1 − e^{−s} ≤ 1`, so `bern a s ≤ s^(−1−a)`
    refine dom measurableSet_Ioi (fun x (hx : 1 < x) => one_pos.trans hx)
      (integrableOn_Ioi_rpow_of_lt (sub_lt_self _ h0) one_pos) fun s (hs : 1 < s) => ?_
    exact mul_le_of_le_one_right (rpow_nonneg (one_pos.trans hs).le _) (sub_le_self _ (exp_pos _).le)

/-- the constant `C_a` -/
noncomputable def bernC (a : ℝ) : ℝ := ∫ s in Ioi 0, bern a s

theorem bernC_pos {a : ℝ} (h0 : 0 < a) (h1 : a < 1) : 0 < bernC a := by
  unfold bernC
  rw [setIntegral_pos_iff_support_of_nonneg_ae ?_ (bern_integrableOn h0 h1)]
  · have : Ioi (0 : ℝ) ⊆ Function.support (bern a) ∩ Ioi 0 :=
      fun s hs => ⟨(bern_pos a hs).ne', hs⟩
    exact lt_of_lt_of_le (by simp) (measure_mono this)
  · exact (ae_restrict_iff' measurableSet_Ioi).mpr (Filter.Eventually.of_forall fun s hs => (bern_pos a hs).le)

theorem bern_scale (a : ℝ) {r t : ℝ} (hr : 0 < r) (ht : 0 < t) :
    t ^ (-1 - a) * (1 - Real.exp (-(t * r))) = r ^ (1 + a) * bern a (t * r) := by
  have : r ^ (1 + a) * r ^ (-1 - a) = 1 := by
    rw [← rpow_add hr, show 1 + a + (-1 - a) = 0 by ring, rpow_zero]
  rw [bern, mul_rpow ht.le hr.le, mul_assoc, mul_left_comm, ← mul_assoc (r ^ (1 + a)), this, one_mul]

-- the integrand, here and in `bernC_mul_rpow`, is written factor by factor as `IsCND.rpow` (`Lemmas/PsdLpq.lean`) produces it
theorem bern_scaled_integrableOn {a : ℝ} (h0 : 0 < a) (h1 : a < 1) {r : ℝ} (hr : 0 ≤ r) :
    IntegrableOn (fun t => t ^ (-1 - a) * (1 - Real.exp (-(t * r)))) (Ioi 0) := by
  rcases hr.eq_or_lt with rfl | hr
  · simp
  · have h : IntegrableOn (fun t => bern a (t * r)) (Ioi 0) :=
      (integrableOn_Ioi_comp_mul_right_iff (bern a) 0 hr).mpr (by rw [zero_mul]; exact bern_integrableOn h0 h1)
    exact IntegrableOn.congr_fun (h.const_mul (r ^ (1 + a))) (fun t ht => (bern_scale a hr ht).symm) measurableSet_Ioi

theorem bernC_mul_rpow {a : ℝ} (h0 : 0 < a) {r : ℝ} (hr : 0 ≤ r) :
    ∫ t in Ioi 0, t ^ (-1 - a) * (1 - Real.exp (-(t * r))) = bernC a * r ^ a := by
  rcases hr.eq_or_lt with rfl | hr
  · simp [zero_rpow h0.ne']
  · -- substitute `s = t·r`: `∫ … dt = r^{1+a} · ∫ bern a (t·r) dt = r^{1+a} · r⁻¹ · C_a`
    rw [setIntegral_congr_fun measurableSet_Ioi fun t ht => bern_scale a hr ht, integral_const_mul,
      integral_comp_mul_right_Ioi (bern a) 0 hr, zero_mul, smul_eq_mul, ← bernC, rpow_add hr, rpow_one, mul_comm r,
      mul_assoc, mul_inv_cancel_left₀ hr.ne', mul_comm]

end Xrfmv.Psd
