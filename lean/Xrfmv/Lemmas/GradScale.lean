/-
Homogeneity of the closed-form gradients (C19): rescaling the centers, the evaluation points and the bandwidth by the
same `c > 0` divides every gradient of the Laplace-family predictors by `c` — provided the coincidence masks
(`‖Δ‖ < eps`, a degree-1 quantity for every kernel) fire for the same pairs at both scales.  The sum-power kernel is left
out (`ScaleOK .sumPower` is `False`, `maskQ .sumPower` a filler): it has no adaptive bandwidth (its constructor asserts
`bandwidth_mode == 'constant'`), which is where C19 uses the law, and its mask is per coordinate.
-/
import Xrfmv.Lemmas.GradBasic

namespace Xrfmv.Grad

/-- `c · v`, reducibly: the body of the model's `vscale`. -/
abbrev sm (c : ℝ) (v : List ℝ) : List ℝ := v.map (c * ·)

def Params.withL (P : Params ℝ) (L : ℝ) : Params ℝ := { P with L := L }

@[simp] theorem withL_L (P : Params ℝ) (L : ℝ) : (P.withL L).L = L := rfl
@[simp] theorem withL_q (P : Params ℝ) (L : ℝ) : (P.withL L).q = P.q := rfl
@[simp] theorem withL_p (P : Params ℝ) (L : ℝ) : (P.withL L).p = P.p := rfl
@[simp] theorem withL_eps (P : Params ℝ) (L : ℝ) : (P.withL L).eps = P.eps := rfl

theorem vsub_sm (c : ℝ) (v u : List ℝ) : vsub (sm c v) (sm c u) = sm c (vsub v u) := by
  simp only [vsub, sm, List.zipWith_map, List.map_zipWith, mul_sub]

theorem vsum_sm (c : ℝ) (l : List ℝ) : vsum (sm c l) = c * vsum l := by
  have := List.sum_map_mul_left l id c
  rwa [List.map_id] at this

theorem sm_sm (a b : ℝ) (l : List ℝ) : sm a (sm b l) = sm (a * b) l := by
  simp only [sm, List.map_map, Function.comp_def, mul_assoc]

theorem sm_one (l : List ℝ) : sm 1 l = l := by
  simp only [sm, one_mul, List.map_id']

theorem vsum_map_sm {ψ : ℝ → ℝ} {c k : ℝ} (h : ∀ t, ψ (c * t) = k * ψ t) (Δ : List ℝ) :
    vsum ((sm c Δ).map ψ) = k * vsum (Δ.map ψ) := by
  rw [sm, List.map_map]
  simp only [Function.comp_def, h]
  exact List.sum_map_mul_left _ _ _

theorem sqDist_sm (c : ℝ) (u v : List ℝ) : sqDist (sm c u) (sm c v) = c ^ 2 * sqDist u v := by
  rw [sqDist, vsub_sm]
  exact vsum_map_sm (fun t => by ring) _

theorem sqrt_sq_mul {c : ℝ} (hc : 0 < c) (r : ℝ) : Real.sqrt (c ^ 2 * r) = c * Real.sqrt r := by
  rw [Real.sqrt_mul (sq_nonneg c), Real.sqrt_sq hc.le]

theorem dist_sm {c : ℝ} (hc : 0 < c) (u v : List ℝ) :
    Real.sqrt (sqDist (sm c u) (sm c v)) = c * Real.sqrt (sqDist u v) := by
  rw [sqDist_sm, sqrt_sq_mul hc]

theorem pSum_sm {c : ℝ} (hc : 0 < c) (a : ℝ) (Δ : List ℝ) : pSum a (sm c Δ) = c ^ a * pSum a Δ :=
  vsum_map_sm (fun t => by
    simp only [abs_real, rpow_real, abs_mul, abs_of_pos hc, Real.mul_rpow hc.le (abs_nonneg t)]) Δ

theorem pNorm_sm {c : ℝ} (hc : 0 < c) {p : ℝ} (hp : p ≠ 0) (Δ : List ℝ) : pNorm p (sm c Δ) = c * pNorm p Δ := by
  unfold pNorm
  simp only [rpow_real]
  rw [pSum_sm hc, Real.mul_rpow (Real.rpow_nonneg hc.le p) (pSum_nonneg p Δ), ← Real.rpow_mul hc.le,
    mul_one_div_cancel hp, Real.rpow_one]

theorem sgnPow_sm {c : ℝ} (hc : 0 < c) (a t : ℝ) : sgnPow a (c * t) = c ^ a * sgnPow a t := by
  rw [sgnPow_eq, sgnPow_eq, abs_mul, abs_of_pos hc, Real.mul_rpow hc.le (abs_nonneg t), sign_mul, sign_pos hc, one_mul,
    mul_assoc]

theorem div_rpow_scale {c : ℝ} (hc : 0 < c) (q : ℝ) {L d : ℝ} (hL : 0 ≤ L) (hd : 0 ≤ d) :
    (c * d) ^ q / (c * L) ^ q = d ^ q / L ^ q := by
  rw [Real.mul_rpow hc.le hd, Real.mul_rpow hc.le hL, mul_div_mul_left _ _ (Real.rpow_pos_of_pos hc q).ne']

theorem kL2_scale {c : ℝ} (hc : 0 < c) (P : Params ℝ) (hL : 0 ≤ P.L) (u v : List ℝ) :
    kL2 (P.withL (c * P.L)) (sm c u) (sm c v) = kL2 P u v := by
  simp only [kL2, radial, withL_L, withL_q, sqrt_real, rpow_real, exp_real, dist_sm hc]
  rw [neg_div, neg_div, div_rpow_scale hc _ hL (Real.sqrt_nonneg _)]

theorem kProd_scale {c : ℝ} (hc : 0 < c) (P : Params ℝ) (hL : 0 ≤ P.L) (u v : List ℝ) :
    kProd (P.withL (c * P.L)) (sm c u) (sm c v) = kProd P u v := by
  simp only [kProd, withL_L, withL_q, rpow_real, exp_real, vsub_sm, pSum_sm hc]
  rw [Real.mul_rpow hc.le hL, neg_div, neg_div, mul_div_mul_left _ _ (Real.rpow_pos_of_pos hc _).ne']

theorem kLpq_scale {c : ℝ} (hc : 0 < c) (P : Params ℝ) (hL : 0 ≤ P.L) (hp : P.p ≠ 0) (u v : List ℝ) :
    kLpq (P.withL (c * P.L)) (sm c u) (sm c v) = kLpq P u v := by
  simp only [kLpq, withL_L, withL_q, withL_p, rpow_real, exp_real, vsub_sm, pNorm_sm hc hp]
  rw [neg_div, neg_div, div_rpow_scale hc _ hL (pNorm_nonneg _ _)]

/-- An entry `K·(−q/L^q)·D^a·|t|^b sgn t` of a Laplace-family gradient (`K` the kernel value, `D` a distance;
L2: `a = q−2, b = 1`, product: `a = 0, b = q−1`, Lpq: `a = q−p, b = p−1`) is homogeneous of degree `a + b − q = −1`. -/
theorem entry_scale {c : ℝ} (hc : 0 < c) {a b q : ℝ} (h : a + b = q - 1) (K Lq Da σ : ℝ) :
    K * (-(q / (c ^ q * Lq))) * (c ^ a * Da) * (c ^ b * σ) = c⁻¹ * (K * (-(q / Lq)) * Da * σ) := by
  have e : c ^ a * c ^ b / c ^ q = c⁻¹ := by
    rw [← Real.rpow_add hc, ← Real.rpow_sub hc, h, sub_sub_cancel_left, Real.rpow_neg_one]
  rw [← e]
  ring

/-- A masked row `if m < eps then 0 else Δ ↦ F Δ_d` at scale `c`, when the mask fires alike at both scales. -/
theorem maskedMap_sm {c a m eps : ℝ} (F F' : ℝ → ℝ) (Δ : List ℝ) (hm : m < eps ↔ c * m < eps)
    (hF : ∀ t, F' (c * t) = a * F t) :
    (if c * m < eps then (sm c Δ).map (fun _ => (0 : ℝ)) else (sm c Δ).map F') =
      sm a (if m < eps then Δ.map (fun _ => 0) else Δ.map F) := by
  by_cases h : m < eps
  · rw [if_pos h, if_pos (hm.1 h)]; simp only [sm, List.map_map, Function.comp_def, mul_zero]
  · rw [if_neg h, if_neg (mt hm.2 h)]; simp only [sm, List.map_map, Function.comp_def, hF]

theorem l2Entry_scale {c : ℝ} (hc : 0 < c) (P : Params ℝ) (hL : 0 ≤ P.L) {d : ℝ} (hd : 0 ≤ d) (t : ℝ) :
    l2Factor (P.withL (c * P.L)) (c * d) * (c * t) = c⁻¹ * (l2Factor P d * t) := by
  simp only [l2Factor, withL_L, withL_q, rpow_real, exp_real, neg_div, div_rpow_scale hc _ hL hd]
  rw [Real.mul_rpow hc.le hL, Real.mul_rpow hc.le hd]
  have := entry_scale hc (a := P.q - 2) (b := 1) (by ring) (Real.exp (-(d ^ P.q / P.L ^ P.q))) (P.L ^ P.q)
    (d ^ (P.q - 2)) t
  -- `l2Factor` has the kernel value and `−q/L^q` in the other order
  rwa [Real.rpow_one, mul_comm (Real.exp _), mul_comm (Real.exp _)] at this

/-- The degree-1 quantity each coincidence mask compares with `eps`. -/
noncomputable def maskQ (k : Kind) (P : Params ℝ) (u v : List ℝ) : ℝ :=
  match k with
  | .l2 | .light => Real.sqrt (sqDist u v)
  | .prod => pNorm P.q (vsub v u)
  | .lpq => pNorm P.p (vsub v u)
  | .sumPower => 0

/-- The mask of kernel `k` fires for the pair `(u, v)` at scale `c` exactly when it fires at scale 1. -/
def MaskStable (c : ℝ) (k : Kind) (P : Params ℝ) (u v : List ℝ) : Prop :=
  maskQ k P u v < P.eps ↔ c * maskQ k P u v < P.eps

theorem maskQ_nonneg (k : Kind) (P : Params ℝ) (u v : List ℝ) : 0 ≤ maskQ k P u v := by
  cases k
  case l2 | light => exact Real.sqrt_nonneg _
  case prod | lpq => exact pNorm_nonneg _ _
  case sumPower => exact le_rfl

theorem map_zero_sm (a : ℝ) (l : List ℝ) : sm a (l.map fun _ => (0 : ℝ)) = l.map fun _ => (0 : ℝ) := by
  simp only [sm, List.map_map, Function.comp_def, mul_zero]

theorem gradL2_scale {c : ℝ} (hc : 0 < c) (P : Params ℝ) (hL : 0 ≤ P.L) (u v : List ℝ)
    (hm : MaskStable c .l2 P u v) :
    gradL2 (P.withL (c * P.L)) (sm c u) (sm c v) = sm c⁻¹ (gradL2 P u v) := by
  simp only [gradL2, sqrt_real, withL_eps, dist_sm hc, vsub_sm]
  exact maskedMap_sm _ _ _ hm fun t => l2Entry_scale hc P hL (Real.sqrt_nonneg _) t

theorem gradProd_scale {c : ℝ} (hc : 0 < c) (P : Params ℝ) (hL : 0 ≤ P.L) (hq : P.q ≠ 0) (u v : List ℝ)
    (hm : MaskStable c .prod P u v) :
    gradProd (P.withL (c * P.L)) (sm c u) (sm c v) = sm c⁻¹ (gradProd P u v) := by
  simp only [gradProd, withL_eps, withL_q, withL_L, vsub_sm, pNorm_sm hc hq, kProd_scale hc P hL, rpow_real]
  refine maskedMap_sm _ _ _ hm fun t => ?_
  rw [sgnPow_sm hc, Real.mul_rpow hc.le hL]
  have := entry_scale hc (a := 0) (b := P.q - 1) (zero_add _) (kProd P u v) (P.L ^ P.q) 1 (sgnPow (P.q - 1) t)
  rwa [Real.rpow_zero, mul_one, mul_one, mul_one] at this

theorem gradLpq_scale {c : ℝ} (hc : 0 < c) (P : Params ℝ) (hL : 0 ≤ P.L) (hp : P.p ≠ 0) (u v : List ℝ)
    (hm : MaskStable c .lpq P u v) :
    gradLpq (P.withL (c * P.L)) (sm c u) (sm c v) = sm c⁻¹ (gradLpq P u v) := by
  simp only [gradLpq, withL_eps, withL_q, withL_p, withL_L, vsub_sm, pNorm_sm hc hp, kLpq_scale hc P hL hp, rpow_real]
  refine maskedMap_sm _ _ _ hm fun t => ?_
  rw [sgnPow_sm hc, Real.mul_rpow hc.le hL, Real.mul_rpow hc.le (pNorm_nonneg _ _)]
  exact entry_scale hc (sub_add_sub_cancel _ _ _) _ _ _ _

theorem applyT_sm (c : ℝ) (T : Transform ℝ) (x : List ℝ) : applyT T (sm c x) = sm c (applyT T x) := by
  -- `full`: entry `e` is a `vsum`, into which `c` is pushed by `vsum_sm` read backwards
  cases T <;> simp only [applyT, sm, List.length_map, List.map_map, Function.comp_def, List.zipWith_map_left,
    ← vsum_sm, List.map_zipWith, mul_assoc]

theorem vadd_sm (a : ℝ) (x y : List ℝ) : vadd (sm a x) (sm a y) = sm a (vadd x y) := by
  simp only [vadd, sm, List.zipWith_map, List.map_zipWith, mul_add]

theorem vzero_sm (a : ℝ) (n : ℕ) : sm a (vzero n) = (vzero n : List ℝ) := by
  simp only [vzero, sm, List.map_replicate, mul_zero]

theorem vscale_sm (ci a : ℝ) (g : List ℝ) : vscale ci (sm a g) = sm a (vscale ci g) := by
  simp only [vscale, sm, List.map_map, Function.comp_def, mul_left_comm]

theorem rowGrad_scale (a c : ℝ) (pg pg' : List ℝ → List ℝ → List ℝ) (coef : List ℝ) (us : List (List ℝ)) (v : List ℝ)
    (h : ∀ u ∈ us, pg' (sm c u) (sm c v) = sm a (pg u v)) :
    rowGrad pg' coef (us.map (sm c)) (sm c v) = sm a (rowGrad pg coef us v) := by
  have h0 : (vzero (sm c v).length : List ℝ) = sm a (vzero v.length) := by rw [vzero_sm, List.length_map]
  induction us generalizing coef with
  | nil => rw [List.map_nil, rowGrad_nil, rowGrad_nil, h0]
  | cons u us ih =>
    cases coef with
    | nil => exact h0
    | cons ci coef =>
      rw [List.map_cons, rowGrad_cons, rowGrad_cons, h u List.mem_cons_self, vscale_sm,
        ih coef fun u' hu' => h u' (List.mem_cons_of_mem _ hu'), vadd_sm]

theorem dot_sm (c : ℝ) (x y : List ℝ) : dot (sm c x) (sm c y) = c ^ 2 * dot x y := by
  rw [dot, dot, ← vsum_sm]
  simp only [sm, List.zipWith_map, List.map_zipWith, sq, mul_mul_mul_comm]

theorem lightSq_sm (c : ℝ) (M : Transform ℝ) (x z : List ℝ) :
    lightSq M (sm c x) (sm c z) = c ^ 2 * lightSq M x z := by
  rw [lightSq_eq_max, lightSq_eq_max, vsub_sm, applyT_sm, dot_sm, mul_max_of_nonneg _ _ (sq_nonneg c), mul_zero]

theorem lightDist_sm {c : ℝ} (hc : 0 < c) (M : Transform ℝ) (x z : List ℝ) :
    Real.sqrt (lightSq M (sm c x) (sm c z)) = c * Real.sqrt (lightSq M x z) := by
  rw [lightSq_sm, sqrt_sq_mul hc]

/-- Mask of the memory-light kernel: on `√(Δ M Δᵀ)`. -/
def LightMaskStable (c : ℝ) (P : Params ℝ) (M : Transform ℝ) (x z : List ℝ) : Prop :=
  Real.sqrt (lightSq M x z) < P.eps ↔ c * Real.sqrt (lightSq M x z) < P.eps

theorem gradLight_scale {c : ℝ} (hc : 0 < c) (P : Params ℝ) (hL : 0 ≤ P.L) (M : Transform ℝ) (x z : List ℝ)
    (hm : LightMaskStable c P M x z) :
    gradLight (P.withL (c * P.L)) M (sm c x) (sm c z) = sm c⁻¹ (gradLight P M x z) := by
  simp only [gradLight, sqrt_real, withL_eps, lightDist_sm hc, vsub_sm, applyT_sm]
  exact maskedMap_sm _ _ _ hm fun t => l2Entry_scale hc P hL (Real.sqrt_nonneg _) t

/-- Parameter guards under which the kernel is a Laplace-family kernel with a scalable bandwidth. -/
def ScaleOK (k : Kind) (P : Params ℝ) : Prop :=
  0 ≤ P.L ∧ match k with
  | .l2 | .light => True
  | .prod => P.q ≠ 0
  | .lpq => P.p ≠ 0
  | .sumPower => False

theorem pairGrad_scale {c : ℝ} (hc : 0 < c) (k : Kind) (P : Params ℝ) (hk : ScaleOK k P) (u v : List ℝ)
    (hm : MaskStable c k P u v) :
    pairGrad k (P.withL (c * P.L)) (sm c u) (sm c v) = sm c⁻¹ (pairGrad k P u v) := by
  obtain ⟨hL, hk⟩ := hk
  cases k with
  | l2 | light => exact gradL2_scale hc P hL u v hm
  | prod => exact gradProd_scale hc P hL hk u v hm
  | lpq => exact gradLpq_scale hc P hL hk u v hm
  | sumPower => exact absurd hk id

/-- Masks stable for every (center, point) pair the gradient tensor is built from. -/
def AllMaskStable (c : ℝ) (k : Kind) (P : Params ℝ) (T : Transform ℝ) (xs zs : List (List ℝ)) : Prop :=
  ∀ x ∈ xs, ∀ z ∈ zs, match k with
    | .light => LightMaskStable c P T x z
    | _ => MaskStable c k P (applyT T x) (applyT T z)

/-- **Gradient homogeneity.**  `get_function_grads` on centers, points and bandwidth all rescaled by `c > 0`
returns the gradient tensor divided by `c` (every kernel of the Laplace family, every transform, every output). -/
theorem fgrad_scale {c : ℝ} (hc : 0 < c) (k : Kind) (P : Params ℝ) (hk : ScaleOK k P) (T : Transform ℝ)
    (xs zs : List (List ℝ)) (coefs : List (List ℝ)) (hm : AllMaskStable c k P T xs zs) :
    fgrad k (P.withL (c * P.L)) T (xs.map (sm c)) (zs.map (sm c)) coefs =
      (fgrad k P T xs zs coefs).map fun perOut => perOut.map (sm c⁻¹) := by
  by_cases hl : k = .light
  · subst hl
    simp only [fgrad, List.map_map, Function.comp_def]
    refine List.map_congr_left fun coef _ => List.map_congr_left fun z hz => ?_
    exact rowGrad_scale c⁻¹ c _ _ coef xs z fun x hx => gradLight_scale hc P hk.1 T x z (hm x hx z hz)
  · simp only [fgrad_of_ne_light hl, List.map_map, Function.comp_def, applyT_sm]
    refine List.map_congr_left fun coef _ => List.map_congr_left fun z hz => ?_
    -- `sm c` is inside every `applyT`; the outer one takes `sm c⁻¹` inside too, the centers become `(xs.map (applyT T)).map (sm c)`
    rw [← applyT_sm c⁻¹, show List.map (fun x => sm c (applyT T x)) xs = (xs.map (applyT T)).map (sm c) from
      List.map_map.symm]
    refine congrArg _ (rowGrad_scale c⁻¹ c _ _ coef _ _ fun u hu => ?_)
    obtain ⟨x, hx, rfl⟩ := List.mem_map.1 hu
    -- the arm of `AllMaskStable` for a kernel other than the memory-light one
    have := hm x hx z hz
    exact pairGrad_scale hc _ P hk _ _ (by cases k <;> first | exact absurd rfl hl | exact this)

end Xrfmv.Grad
