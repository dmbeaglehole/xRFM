/- The size skeleton of `_build_tree` (`Xrfmv.BuildSizes`): what the regenerated `Gen.Split` computes, the two child sizes,
and the facts about `build` that C06 states.  Each regenerated definition is unfolded in the lemmas that say what it
computes and nowhere else: `counts` in `counts_spec`, `sliceOf` in `sliceOf_spec`, the two parts lists in
`leftMaskParts_perm/rightMaskParts_perm`, `shouldCreateLeaf` in `leafTest_none/leafTest_of_some`. -/
import Xrfmv.Model.BuildSizes

namespace Xrfmv.BuildSizes
open Xrfmv.Gen.Split

/-- The number of shared samples: `r` clamped to `0 … n`. -/
def clampO (n r : Int) : Int := max 0 (min r n)

theorem clampO_bounds (n r : Int) (hn : 0 ≤ n) : 0 ≤ clampO n r ∧ clampO n r ≤ n :=
  ⟨Int.le_max_left _ _, Int.max_le.mpr ⟨hn, Int.min_le_right _ _⟩⟩

theorem clampO_of_le (n r : Int) (h0 : 0 ≤ r) (h : r ≤ n) : clampO n r = r := by
  rw [clampO, Int.min_eq_left h, Int.max_eq_right h0]

theorem clampO_of_nonpos (n r : Int) (h : r ≤ 0) : clampO n r = 0 :=
  Int.max_eq_left (Int.le_trans (Int.min_le_left _ _) h)

/-- What the regenerated integer code computes: the band is the clamped `r`, the two unique parts halve the rest
with the odd sample on the left, and the band starts where the left part ends; everything else rests on this lemma.
`simp` unfolds and `omega` decides, so the source may write the clamp as `min(max(r, 0), n)` (this is what needs `0 ≤ n`)
or with a conditional, and the halves and cut points as differences (`remaining - remaining // 2`, …). -/
theorem counts_spec (n r : Int) (_ : 0 ≤ n) :
    (counts n r).overlapCount = clampO n r ∧
    (counts n r).leftUnique + (counts n r).rightUnique = n - (counts n r).overlapCount ∧
    (counts n r).rightUnique ≤ (counts n r).leftUnique ∧
    (counts n r).leftUnique ≤ (counts n r).rightUnique + 1 ∧
    (counts n r).overlapStart = (counts n r).leftUnique ∧
    (counts n r).overlapEnd = (counts n r).leftUnique + (counts n r).overlapCount := by
  simp [counts, clampO]
  omega

theorem counts_bounds (n r : Int) (hn : 0 ≤ n) :
    0 ≤ (counts n r).overlapStart ∧ (counts n r).overlapStart ≤ (counts n r).overlapEnd ∧
    (counts n r).overlapEnd ≤ n := by
  have := counts_spec n r hn
  have := clampO_bounds n r hn
  omega

/-- The sort is cut at the ranks `overlapStart ≤ overlapEnd` (`counts_bounds`), the left part lies before the band and the
right part after it; an open end is read as `0` or as the length `m`.  Evaluated and left to `omega`: `[:k]` against
`[0:k]`, or `overlap_start` against `left_unique_count`, make no difference. -/
theorem sliceOf_spec (n r m : Int) (hn : 0 ≤ n) (p : Part) :
    ((sliceOf (counts n r) p).1.getD 0, (sliceOf (counts n r) p).2.getD m) =
      match p with
      | .leftUnique => (0, (counts n r).overlapStart)
      | .overlap => ((counts n r).overlapStart, (counts n r).overlapEnd)
      | .rightUnique => ((counts n r).overlapEnd, m) := by
  have := counts_spec n r hn
  cases p <;> refine Prod.ext ?_ ?_ <;> simp only [sliceOf, Option.getD_some, Option.getD_none] <;> omega

/-- A slice is used through its two bounds only, and within `0 … n` nothing is clamped. -/
theorem sliceLen_eq (n : Int) (s : Option Int × Option Int) {lo hi : Int} (hs : (s.1.getD 0, s.2.getD n) = (lo, hi))
    (h0 : 0 ≤ lo) (h1 : lo ≤ hi) (h2 : hi ≤ n) : sliceLen n s = hi - lo := by
  cases hs
  simp only [sliceLen, Int.min_eq_left h2, Int.min_eq_left (Int.le_trans h1 h2), Int.max_eq_right h0,
    Int.max_eq_right (Int.le_trans h0 h1), Int.max_eq_right (Int.sub_nonneg.mpr h1)]

theorem sliceLen_part (n r : Int) (hn : 0 ≤ n) (p : Part) :
    sliceLen n (sliceOf (counts n r) p) =
      match p with
      | .leftUnique => (counts n r).overlapStart
      | .overlap => (counts n r).overlapEnd - (counts n r).overlapStart
      | .rightUnique => n - (counts n r).overlapEnd := by
  obtain ⟨h0, h1, h2⟩ := counts_bounds n r hn
  cases p
  · exact (sliceLen_eq n _ (sliceOf_spec n r n hn .leftUnique) (Int.le_refl 0) h0 (Int.le_trans h1 h2)).trans
      (Int.sub_zero _)
  · exact sliceLen_eq n _ (sliceOf_spec n r n hn .overlap) h0 h1 h2
  · exact sliceLen_eq n _ (sliceOf_spec n r n hn .rightUnique) (Int.le_trans h0 h1) h2 (Int.le_refl n)

/-- A mask is a set of positions: only the parts it consists of matter, not the order in which the source sets them.
Decided on the regenerated lists. -/
theorem leftMaskParts_perm : leftMaskParts.Perm [.leftUnique, .overlap] := by decide

theorem rightMaskParts_perm : rightMaskParts.Perm [.overlap, .rightUnique] := by decide

theorem maskSize_perm (n r : Int) {ps qs : List Part} (h : ps.Perm qs) : maskSize n r ps = maskSize n r qs :=
  (h.map _).foldl_eq' (fun _ _ _ _ _ => Int.add_right_comm ..) 0

theorem leftSize_eq (n r : Int) (hn : 0 ≤ n) : leftSize n r = (counts n r).overlapEnd := by
  rw [leftSize, maskSize_perm n r leftMaskParts_perm]
  simp only [maskSize, List.map, List.foldl, sliceLen_part n r hn]
  omega

theorem rightSize_eq (n r : Int) (hn : 0 ≤ n) : rightSize n r = n - (counts n r).overlapStart := by
  rw [rightSize, maskSize_perm n r rightMaskParts_perm]
  simp only [maskSize, List.map, List.foldl, sliceLen_part n r hn]
  omega

theorem rightUnique_slice (n r : Int) (hn : 0 ≤ n) :
    sliceLen n (sliceOf (counts n r) .rightUnique) = (counts n r).rightUnique := by
  have := counts_spec n r hn
  simp only [sliceLen_part n r hn]
  omega

theorem sizes_spec (n r : Int) (hn : 0 ≤ n) :
    leftSize n r + rightSize n r = n + clampO n r ∧ rightSize n r ≤ leftSize n r ∧
    leftSize n r ≤ rightSize n r + 1 := by
  have h := counts_spec n r hn
  rw [leftSize_eq n r hn, rightSize_eq n r hn]
  omega

/-- The child sizes are non-negative, so `toNat` (what `build` recurses on and the index-level model slices with) loses
nothing.  With these two equations in its context `omega` need not split on the sign under `toNat`. -/
theorem sizes_cast (n : Nat) (r : Int) :
    ((leftSize n r).toNat : Int) = leftSize n r ∧ ((rightSize n r).toNat : Int) = rightSize n r := by
  have h := sizes_spec n r (Int.natCast_nonneg n)
  have := clampO_bounds n r (Int.natCast_nonneg n)
  have hR : 0 ≤ rightSize n r := by omega
  exact ⟨Int.toNat_of_nonneg (Int.le_trans hR h.2.1), Int.toNat_of_nonneg hR⟩

theorem sizes_nat (n : Nat) (r : Int) :
    (rightSize n r).toNat ≤ (leftSize n r).toNat ∧ (leftSize n r).toNat ≤ (rightSize n r).toNat + 1 ∧
    (leftSize n r).toNat ≤ n ∧ n ≤ (leftSize n r).toNat + (rightSize n r).toNat := by
  have := sizes_cast n r
  have := sizes_spec n r (Int.natCast_nonneg n)
  have := clampO_bounds n r (Int.natCast_nonneg n)
  omega

theorem sizes_le (n : Nat) (r : Int) : (leftSize n r).toNat ≤ n ∧ (rightSize n r).toNat ≤ n :=
  let ⟨hRL, _, hLn, _⟩ := sizes_nat n r
  ⟨hLn, Nat.le_trans hRL hLn⟩

theorem rightStart_le_leftSize (n : Nat) (r : Int) : n - (rightSize n r).toNat ≤ (leftSize n r).toNat :=
  let ⟨_, _, _, hcover⟩ := sizes_nat n r
  Nat.sub_le_of_le_add hcover

/-- The median rank `(n - 1) / 2` goes left and every later rank goes right, whatever the overlap. -/
theorem median_rank (n : Nat) (r : Int) (hn : 0 < n) :
    (n - 1) / 2 < (leftSize n r).toNat ∧ n - (rightSize n r).toNat ≤ (n - 1) / 2 + 1 := by
  have := sizes_nat n r
  omega

theorem sizes_of_nonpos (n : Nat) (r : Int) (hr : r ≤ 0) : (leftSize n r).toNat + (rightSize n r).toNat = n := by
  have := sizes_cast n r
  have h := sizes_spec n r (Int.natCast_nonneg n)
  rw [clampO_of_nonpos n r hr] at h
  omega

/-- Two unshared samples (`r + 2 ≤ n`): both children are non-empty and smaller than the node. -/
theorem sizes_of_gap (n : Nat) (r : Int) (hr0 : 0 ≤ r) (hr : r + 2 ≤ n) :
    0 < (rightSize n r).toNat ∧ (rightSize n r).toNat ≤ (leftSize n r).toNat ∧ (leftSize n r).toNat < n := by
  have := sizes_cast n r
  have h := sizes_spec n r (Int.natCast_nonneg n)
  rw [clampO_of_le n r hr0 (by omega)] at h
  omega

/-- The overlap oracle keeps at least two unshared samples at every node that is split. -/
def OvOk (cfg : Cfg) : Prop :=
  ∀ m : Nat, cfg.maxLeaf < m → 0 ≤ cfg.ov m ∧ cfg.ov m + 2 ≤ (m : Int)

/-- The leaf test without and with a requested number of splits.  `simp` evaluates the Boolean structure and `omega` what is
left of the comparisons, so negated or shifted ones (`not (n > L)`, `n < L + 1`, `not (count < k)`) keep both lemmas. -/
theorem leafTest_none (n L count k : Nat) :
    shouldCreateLeaf (n : Int) (L : Int) true (count : Int) (k : Int) = decide (n ≤ L) := by
  rw [Bool.eq_iff_iff]; simp [shouldCreateLeaf] <;> omega

theorem leafTest_of_none (cfg : Cfg) (hns : cfg.nsplits = none) (n count : Nat) :
    shouldCreateLeaf n cfg.maxLeaf cfg.nsplits.isNone count (cfg.nsplits.getD 0) = decide (n ≤ cfg.maxLeaf) :=
  hns ▸ leafTest_none n cfg.maxLeaf count _

theorem leafTest_of_some (cfg : Cfg) (s : Nat) (hns : cfg.nsplits = some s) (n count : Nat) :
    shouldCreateLeaf n cfg.maxLeaf cfg.nsplits.isNone count (cfg.nsplits.getD 0) = true ↔
      n ≤ cfg.maxLeaf ∧ s ≤ count := by
  simp [shouldCreateLeaf, hns] <;> omega

theorem build_leaf (cfg : Cfg) (fuel n count : Nat)
    (h : shouldCreateLeaf n cfg.maxLeaf cfg.nsplits.isNone count (cfg.nsplits.getD 0) = true) :
    build cfg (fuel + 1) n count = (.leaf n, count) := by
  simp only [build, h, if_true]

/-- At a node that is split, the five assertions of `_get_balanced_split` come down to one: the right child, which is
never the larger (`sizes_spec`), is non-empty; the slice assertion cannot fail (`rightUnique_slice`). -/
theorem build_node (cfg : Cfg) (fuel n count : Nat)
    (h : shouldCreateLeaf n cfg.maxLeaf cfg.nsplits.isNone count (cfg.nsplits.getD 0) = false) :
    build cfg (fuel + 1) n count =
      if (rightSize n (cfg.ov n)).toNat = 0 then (.assertFail n, count + 1)
      else
        let lres := build cfg fuel (leftSize n (cfg.ov n)).toNat (count + 1)
        let rres := build cfg fuel (rightSize n (cfg.ov n)).toNat lres.2
        (.node n lres.1 rres.1, rres.2) := by
  have hs := sizes_spec n (cfg.ov n) (Int.natCast_nonneg n)
  have hc := clampO_bounds n (cfg.ov n) (Int.natCast_nonneg n)
  have hcond : (n = 0 ∨ leftSize n (cfg.ov n) ≤ 0 ∨ rightSize n (cfg.ov n) ≤ 0 ∨
      leftSize n (cfg.ov n) - rightSize n (cfg.ov n) > 1 ∨
      sliceLen n (sliceOf (counts n (cfg.ov n)) .rightUnique) ≠ (counts n (cfg.ov n)).rightUnique) ↔
      (rightSize n (cfg.ov n)).toNat = 0 := by
    rw [rightUnique_slice n (cfg.ov n) (Int.natCast_nonneg n), Int.toNat_eq_zero]; omega
  simp only [build, h, Bool.false_eq_true, if_false, hcond]

theorem build_ok (cfg : Cfg) (hns : cfg.nsplits = none) (hov : OvOk cfg) :
    ∀ (fuel n count : Nat), n + 1 ≤ fuel →
      (build cfg fuel n count).1.ok = true ∧ ∀ k ∈ (build cfg fuel n count).1.leaves, k ≤ cfg.maxLeaf := by
  intro fuel
  induction fuel with
  | zero => intro n count h; omega
  | succ fuel ih =>
    intro n count hfuel
    have hl := leafTest_of_none cfg hns n count
    by_cases hle : n ≤ cfg.maxLeaf
    · rw [build_leaf cfg fuel n count (hl.trans (decide_eq_true hle))]
      simp [STree.ok, STree.leaves, hle]
    · obtain ⟨hr0, hr⟩ := hov n (Nat.lt_of_not_le hle)
      obtain ⟨h0, hRL, hLn⟩ := sizes_of_gap n (cfg.ov n) hr0 hr
      rw [build_node cfg fuel n count (hl.trans (decide_eq_false hle)), if_neg (Nat.ne_of_gt h0)]
      have hLf : (leftSize n (cfg.ov n)).toNat < fuel := Nat.lt_of_lt_of_le hLn (Nat.le_of_succ_le_succ hfuel)
      have h1 := ih _ (count + 1) hLf
      have h2 := ih _ (build cfg fuel (leftSize n (cfg.ov n)).toNat (count + 1)).2 (Nat.lt_of_le_of_lt hRL hLf)
      simp only [STree.ok, STree.leaves, List.mem_append, Bool.and_eq_true]
      exact ⟨⟨h1.1, h2.1⟩, fun k hk => hk.elim (h1.2 k) (h2.2 k)⟩

theorem depth_le (cfg : Cfg) (hns : cfg.nsplits = none) (hz : ∀ m, cfg.ov m = 0) :
    ∀ (k fuel n count : Nat), n ≤ cfg.maxLeaf * 2 ^ k → (build cfg fuel n count).1.depth ≤ k := by
  intro k fuel
  induction fuel generalizing k with
  | zero => intro n count _; simp [build, STree.depth]
  | succ fuel ih =>
    intro n count hn
    have hl := leafTest_of_none cfg hns n count
    by_cases hle : n ≤ cfg.maxLeaf
    · rw [build_leaf cfg fuel n count (hl.trans (decide_eq_true hle))]; simp [STree.depth]
    · cases k with
      | zero => omega
      | succ k =>
        have := sizes_nat n (cfg.ov n)
        have := sizes_of_nonpos n _ (Int.le_of_eq (hz n))
        rw [Nat.pow_succ, ← Nat.mul_assoc] at hn
        obtain ⟨hlk, hrk⟩ : (leftSize n (cfg.ov n)).toNat ≤ cfg.maxLeaf * 2 ^ k ∧
            (rightSize n (cfg.ov n)).toNat ≤ cfg.maxLeaf * 2 ^ k := by
          omega
        rw [build_node cfg fuel n count (hl.trans (decide_eq_false hle))]
        split
        · exact Nat.zero_le _
        · have := ih k _ (count + 1) hlk
          have := ih k _ (build cfg fuel (leftSize n (cfg.ov n)).toNat (count + 1)).2 hrk
          simp only [STree.depth]
          omega

theorem count_eq_add_splits (cfg : Cfg) (fuel n count : Nat) :
    (build cfg fuel n count).1.ok = true →
      (build cfg fuel n count).2 = count + (build cfg fuel n count).1.splits := by
  -- cases of `fun_induction build`: 1 out of fuel, 2 leaf, 3 failed assertion, 4 split, which binds the arguments, the failed
  -- leaf test, the let-bound `count1 ls rs c`, the passed assertions, the children's results and their hypotheses
  fun_induction build cfg fuel n count with
  | case1 | case3 => simp [STree.ok]
  | case2 => simp [STree.splits]
  | case4 fuel n count _ count1 ls rs c _ lres rres ih1 ih2 =>
    -- the case variables are let-bound: `omega` takes `lres` and the call it abbreviates for two atoms until unfolded
    simp only [STree.ok, STree.splits, Bool.and_eq_true, rres, lres, count1] at ih1 ih2 ⊢
    exact fun hok => by have := ih1 hok.1; have := ih2 hok.2; omega

theorem count_ge_nsplits (cfg : Cfg) (s : Nat) (hns : cfg.nsplits = some s) (fuel n count : Nat) :
    (build cfg fuel n count).1.ok = true → s ≤ (build cfg fuel n count).2 := by
  fun_induction build cfg fuel n count with
  | case1 | case3 => simp [STree.ok]
  | case2 fuel n count hleaf =>
    exact fun _ => ((leafTest_of_some cfg s hns n count).mp hleaf).2
  | case4 fuel n count _ count1 ls rs c _ lres rres ih1 ih2 =>
    intro hok
    simp only [STree.ok, Bool.and_eq_true] at hok
    exact ih2 hok.2

end Xrfmv.BuildSizes
