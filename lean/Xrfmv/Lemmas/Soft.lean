/-
Lemmas behind C09 (soft routing).  `section spec`: the definitions the statements of `Props/C09` use.  `section gen`:
all that the proofs use of the regenerated `Gen.Soft`; each definition a proof needs is unfolded in one lemma there and
consulted nowhere else (`rejectT`, `routeHard` have none), and the re-spellings of the source named in the comments
there have been tested by regenerating.  The cache: the stack machine `buildCache` equals the recursive definitions
(`loop_eq`, functional induction along `loop`).  At `ℝ` one notion carries the simplex facts, `renorm` of a
non-negative list with positive sum (`renorm_spec`): the stable soft-max is `renorm (map exp ·)`, the truncated weights
are `renorm` of the masked row, and the truncation count is read off the cumulative sums by `countP_prefix`
(`keepCount_spec`).  For `T → 0⁺`, `hardPath_split` finds the hard-routed leaf inside `pathsSpec`, `pathSum_limits`
gives the limits of the documented log-probabilities and `dominant_split` the weights.
-/
import Xrfmv.Model.Soft
import Xrfmv.Lemmas.RealInst
import Xrfmv.Lemmas.ListOfFn

namespace Xrfmv.Soft
open Xrfmv.Gen.Soft

section spec

/-- Contract of `torch.sort(weights, descending=…)` for one row: `perm` lists every leaf position once and
the weights read along it are ordered as `Gen.Soft.sortDescending` says.  Nothing is assumed on ties. -/
structure SortContract (w : List ℝ) (perm : List ℕ) : Prop where
  isPerm : perm.Perm (List.range w.length)
  sorted : (perm.map (fun i => w.getD i 0)).Pairwise (fun a b => sortLe a b = true)

/-- Total weight of the kept leaves. -/
def keptMass (w : List ℝ) (kept : List ℕ) : ℝ := (kept.map (fun i => w.getD i 0)).sum

/-- Mass of the `k` heaviest leaves. -/
noncomputable def topMass (w : List ℝ) (perm : List ℕ) (k : ℕ) : ℝ := keptMass w (perm.take k)

/-- The logistic function. -/
noncomputable def sigmoid (t : ℝ) : ℝ := 1 / (1 + Real.exp (-t))

/-- The documented gate term of one split on a leaf's path: `log σ(−z)` on a left branch, `log σ(z)` on a right
branch, `z = (x·v − b) / (T·σ)`. -/
noncomputable def docTerm (T : ℝ) (x : List ℝ) (ge : Gate ℝ × Bool) : ℝ :=
  Real.log (sigmoid (if ge.2 then -((dot x ge.1.dir - ge.1.thr) / (T * ge.1.scale))
                     else (dot x ge.1.dir - ge.1.thr) / (T * ge.1.scale)))

end spec

section gen

/-- The left child is pushed last, hence popped first; flag `true` marks the left branch (`pushOrder`, `pathFlag`). -/
theorem push_eq {α μ : Type} (l r : Tree α μ) (p : Path) (nn : Nat) (rest : Stack α μ) :
    push l r p nn rest = (l, p ++ [(nn, true)]) :: (r, p ++ [(nn, false)]) :: rest := rfl

theorem nodeLogit_eq (p b T s : ℝ) : nodeLogit p b T s = (p - b) / (T * s) := by
  unfold nodeLogit; ring  -- whether the source divides by `T * s`, by `T` and then by `s`, or by `s * T`

theorem gateTerm_eq (ls : ℝ → ℝ) (b : Bool) (acc z : ℝ) :
    gateTerm ls b acc z = acc + ls (if b then -z else z) := by
  -- either order of each sum; also `if not took_left:` with the branches swapped
  unfold gateTerm; cases b <;> simp [add_comm acc]

theorem logClamp_neg : (logClamp : ℝ) < 0 := by
  unfold logClamp; norm_num

theorem clampLog_eq (v : ℝ) : clampLog v = max v logClamp := rfl

theorem clampLog_of_le (v : ℝ) (h : v ≤ logClamp) : clampLog v = (logClamp : ℝ) :=
  (clampLog_eq v).trans (max_eq_right h)

theorem clampLog_of_ge (v : ℝ) (h : logClamp ≤ v) : clampLog v = v :=
  (clampLog_eq v).trans (max_eq_left h)

theorem sortLe_iff (a b : ℝ) : sortLe a b = true ↔ b ≤ a := by
  rw [sortLe, if_pos (show sortDescending = true from rfl), decide_eq_true_eq]

/-- All that is used of the cut-off comparison: it counts every position strictly short of `keep` and
none strictly beyond (`<` and `≤` both qualify; ties stay open). -/
theorem cutoff_spec (c k : ℝ) : (c < k → cutoff c k = true) ∧ (cutoff c k = true → c ≤ k) := by
  unfold cutoff
  constructor <;> intro h <;> simp at h ⊢ <;> linarith

theorem keepCount_eq (keep : ℝ) (cap n : ℕ) (sw : List ℝ) :
    keepCount keep cap n sw =
      min ((cumsumFrom 0 sw).countP (fun c => cutoff c keep)) (min cap n - 1) := by
  -- one definition per call: a single call over both is much slower.  `grind`, not `omega`, for `maxAllowed`: it also
  -- reads `max(·, 0)` written as a conditional expression (a `decide` in the term); `min(cap - 1, n - 1)` is fine too
  have h1 : maxAllowed (cap : Int) (n : Int) = ((min cap n - 1 : ℕ) : Int) := by unfold maxAllowed; grind
  have h2 : ∀ c m : ℕ, (clampCount (c : Int) (m : Int)).toNat = min c m := fun c m => by
    unfold clampCount; omega
  unfold keepCount
  rw [h1, h2]

theorem keepPos_iff (p kc : ℕ) : keepPos (p : Int) (kc : Int) = true ↔ p ≤ kc := by
  unfold keepPos; rw [decide_eq_true_eq]; omega

/-- All that is used of the hard-routing comparison: off the threshold it sends smaller projections left and larger
ones right (`≤`, `<`, `¬ >` all qualify; the tie stays open: C09(6) is about rows with no zero logit). -/
theorem hardLeft_spec (p b : ℝ) : (p < b → hardLeft p b = true) ∧ (b < p → hardLeft p b = false) := by
  unfold hardLeft
  constructor <;> intro h <;> simp <;> linarith

end gen

section cache
variable {α μ : Type}

/-- What the run still appends to `c.leaves` from stack `st` and counters `nn`, `nl`; with `stackGates` for `c.gates`
this is the invariant of `loop_eq` (both proof-side only). -/
def stackLeaves : Stack α μ → Nat → Nat → List (Nat × μ × Path)
  | [], _, _ => []
  | (t, p) :: rest, nn, nl => leavesRec t nn nl p ++ stackLeaves rest (nn + t.nodes) (nl + t.nleaves)

def stackGates : Stack α μ → Nat → List (Nat × Gate α)
  | [], _ => []
  | (t, _) :: rest, nn => gatesRec t nn ++ stackGates rest (nn + t.nodes)

theorem loop_eq (st : Stack α μ) (nn nl : Nat) (c : Cache α μ) :
    loop st nn nl c = ⟨c.leaves ++ stackLeaves st nn nl, c.gates ++ stackGates st nn⟩ := by
  induction st, nn, nl, c using loop.induct with
  | case1 nn nl c => simp [loop, stackLeaves, stackGates]
  | case2 nn nl c m path rest ih =>
    rw [loop, ih]
    simp [stackLeaves, stackGates, leavesRec, gatesRec, Tree.nodes, Tree.nleaves]
  | case3 nn nl c g l r path rest ih =>
    rw [loop, ih, push_eq]
    simp [stackLeaves, stackGates, leavesRec, gatesRec, Tree.nodes, Tree.nleaves, Nat.add_assoc]

theorem buildCache_eq (t : Tree α μ) : buildCache t = ⟨leavesRec t 0 0 [], gatesRec t 0⟩ := by
  simp [buildCache, loop_eq, stackLeaves, stackGates]

theorem leavesRec_ids (t : Tree α μ) (nn nl : Nat) (pre : Path) :
    (leavesRec t nn nl pre).map (fun e => e.1) = List.range' nl t.nleaves := by
  induction t generalizing nn nl pre with
  | leaf m => simp [leavesRec, Tree.nleaves]
  | node g l r ihl ihr =>
    simp [leavesRec, Tree.nleaves, ihl, ihr, List.range'_append_1]

theorem gatesRec_ids (t : Tree α μ) (nn : Nat) :
    (gatesRec t nn).map (fun e => e.1) = List.range' nn t.nodes := by
  induction t generalizing nn with
  | leaf m => simp [gatesRec, Tree.nodes]
  | node g l r ihl ihr =>
    rw [gatesRec, Tree.nodes, show 1 + l.nodes + r.nodes = (l.nodes + r.nodes) + 1 by omega, List.range'_succ,
      List.map_cons, List.map_append, ihl, ihr, List.range'_append_1]

theorem leavesRec_models (t : Tree α μ) (nn nl : Nat) (pre : Path) :
    (leavesRec t nn nl pre).map (fun e => e.2.1) = (pathsSpec t).map (fun e => e.1) := by
  induction t generalizing nn nl pre with
  | leaf m => simp [leavesRec, pathsSpec]
  | node g l r ihl ihr => simp [leavesRec, pathsSpec, ihl, ihr, Function.comp_def]

theorem gatesRec_gates (t : Tree α μ) (nn : Nat) :
    (gatesRec t nn).map (fun e => e.2) = t.gatesPre := by
  induction t generalizing nn with
  | leaf m => simp [gatesRec, Tree.gatesPre]
  | node g l r ihl ihr => simp [gatesRec, Tree.gatesPre, ihl, ihr]

theorem lookup_of_mem {β : Type} (l : List (Nat × β)) (hnd : (l.map (fun e => e.1)).Nodup) (e : Nat × β)
    (he : e ∈ l) : l.lookup e.1 = some e.2 := by
  obtain ⟨l₁, l₂, rfl⟩ := List.append_of_mem he
  rw [List.map_append, List.map_cons, List.nodup_append] at hnd
  obtain ⟨-, -, hdisj⟩ := hnd
  exact List.lookup_eq_some_iff.mpr ⟨l₁, l₂, rfl, fun p hp =>
    bne_iff_ne.mpr fun h => hdisj _ (List.mem_map_of_mem hp) _ List.mem_cons_self h.symm⟩

theorem leavesRec_resolve (G : List (Nat × Gate α)) (t : Tree α μ) (nn nl : Nat) (pre : Path)
    (hG : ∀ e ∈ gatesRec t nn, G.lookup e.1 = some e.2) :
    (leavesRec t nn nl pre).map (fun e => (e.2.1, resolve G e.2.2)) =
      (pathsSpec t).map (fun e => (e.1, resolve G pre ++ e.2.map (fun ge => (some ge.1, ge.2)))) := by
  induction t generalizing nn nl pre with
  | leaf m => simp [leavesRec, pathsSpec]
  | node g l r ihl ihr =>
    rw [gatesRec, List.forall_mem_cons, List.forall_mem_append] at hG
    obtain ⟨hg, hl, hr⟩ := hG
    rw [leavesRec, pathsSpec, List.map_append, List.map_append, ihl _ _ _ hl, ihr _ _ _ hr, List.map_map, List.map_map]
    -- both sides are `pathsSpec` mapped; left: `resolve G (pre ++ [(nn, b)]) = resolve G pre ++ [(some g, b)]`, by `hg`
    simp only [resolve, List.map_append, List.map_cons, hg, List.map_nil, List.append_assoc, List.cons_append,
      List.nil_append, Function.comp_def]

theorem cache_leafIds (t : Tree α μ) : (buildCache t).leaves.map (fun e => e.1) = List.range t.nleaves := by
  rw [buildCache_eq]; exact (leavesRec_ids t 0 0 []).trans List.range_eq_range'.symm

theorem cache_gateIds (t : Tree α μ) : (buildCache t).gates.map (fun e => e.1) = List.range t.nodes := by
  rw [buildCache_eq]; exact (gatesRec_ids t 0).trans List.range_eq_range'.symm

theorem cache_gates (t : Tree α μ) : (buildCache t).gates.map (fun e => e.2) = t.gatesPre := by
  rw [buildCache_eq]; exact gatesRec_gates t 0

/-- Node ids are distinct, so looking a path's ids up in the cached table finds the gates of the path. -/
theorem cache_resolve (t : Tree α μ) :
    (buildCache t).leaves.map (fun e => (e.2.1, resolve (buildCache t).gates e.2.2)) =
      (pathsSpec t).map (fun e => (e.1, e.2.map (fun ge => (some ge.1, ge.2)))) := by
  rw [buildCache_eq]
  exact leavesRec_resolve (gatesRec t 0) t 0 0 [] (lookup_of_mem _ (by rw [gatesRec_ids]; exact List.nodup_range'))

theorem nleaves_pos : ∀ t : Tree α μ, 1 ≤ t.nleaves
  | .leaf _ => Nat.le_refl 1
  | .node _ l _ => Nat.le_trans (nleaves_pos l) (Nat.le_add_right _ _)

theorem pathsSpec_length (t : Tree α μ) : (pathsSpec t).length = t.nleaves := by
  induction t with
  | leaf m => simp [pathsSpec, Tree.nleaves]
  | node g l r ihl ihr => simp [pathsSpec, Tree.nleaves, ihl, ihr]

theorem cache_leaves_length (t : Tree α μ) : (buildCache t).leaves.length = t.nleaves := by
  have := congrArg List.length (cache_leafIds t)
  simpa using this

theorem cache_preds {β : Type} (t : Tree α μ) (f : μ → β) :
    (buildCache t).leaves.map (fun e => f e.2.1) = (pathsSpec t).map (fun e => f e.1) := by
  have := congrArg (List.map f) (leavesRec_models t 0 0 [])
  rw [List.map_map, List.map_map] at this
  rw [buildCache_eq]
  exact this

theorem mem_gatesPre_of_mem_pathsSpec (t : Tree α μ) : ∀ e ∈ pathsSpec t, ∀ ge ∈ e.2, ge.1 ∈ t.gatesPre := by
  induction t with
  | leaf m => intro e he ge hge; rw [pathsSpec, List.mem_singleton] at he; rw [he] at hge; cases hge
  | node g l r ihl ihr =>
    intro e he ge hge
    rw [pathsSpec, List.mem_append, List.mem_map, List.mem_map] at he
    rw [Tree.gatesPre, List.mem_cons, List.mem_append]
    rcases he with ⟨e0, he0, rfl⟩ | ⟨e0, he0, rfl⟩ <;> rcases List.mem_cons.mp hge with rfl | h
    · exact .inl rfl
    · exact .inr (.inl (ihl e0 he0 ge h))
    · exact .inl rfl
    · exact .inr (.inr (ihr e0 he0 ge h))

end cache

theorem sumL_eq (l : List ℝ) : sumL l = l.sum := rfl

theorem exp_eq (x : ℝ) : Xrfmv.exp x = Real.exp x := rfl
theorem log_eq (x : ℝ) : Xrfmv.log x = Real.log x := rfl

theorem getD_nonneg (w : List ℝ) (hw : ∀ v ∈ w, 0 ≤ v) (i : ℕ) : 0 ≤ w.getD i 0 := by
  rcases Nat.lt_or_ge i w.length with h | h
  · rw [List.getD_eq_getElem w 0 h]; exact hw _ (List.getElem_mem h)
  · rw [List.getD_eq_default w 0 h]

theorem getD_le_sum (l : List ℝ) (h : ∀ v ∈ l, 0 ≤ v) (i : ℕ) : l.getD i 0 ≤ l.sum := by
  rcases Nat.lt_or_ge i l.length with hi | hi
  · rw [List.getD_eq_getElem l 0 hi]; exact List.single_le_sum h _ (List.getElem_mem hi)
  · rw [List.getD_eq_default l 0 hi]; exact List.sum_nonneg h

theorem renorm_length (l : List ℝ) : (renorm l).length = l.length := by simp [renorm]

theorem renorm_getD (l : List ℝ) (i : ℕ) : (renorm l).getD i 0 = l.getD i 0 / l.sum := by
  simp only [renorm, sumL_eq]
  rw [← List.getD_map (f := fun v => v / l.sum), zero_div]

theorem renorm_spec (l : List ℝ) (h0 : ∀ v ∈ l, 0 ≤ v) (hs : 0 < l.sum) :
    (∀ v ∈ renorm l, 0 ≤ v) ∧ (renorm l).sum = 1 := by
  simp only [renorm, sumL_eq, List.forall_mem_map, div_eq_mul_inv, List.sum_map_mul_right, List.map_id']
  exact ⟨fun v hv => mul_nonneg (h0 v hv) (inv_nonneg.mpr hs.le), mul_inv_cancel₀ hs.ne'⟩

theorem renorm_pos (l : List ℝ) (h0 : ∀ v ∈ l, 0 < v) : ∀ v ∈ renorm l, 0 < v := by
  simp only [renorm, sumL_eq, List.forall_mem_map]
  exact fun v hv => div_pos (h0 v hv) (List.sum_pos l h0 (List.ne_nil_of_mem hv))

/-- `maxL a l` is the maximum of `a :: l`: an upper bound that is attained.  (No proof here needs it: in
`softmax_eq_renorm` the shift cancels whatever it is.) -/
theorem maxL_eq (l : List ℝ) (a : ℝ) : (a :: l).max? = some (maxL a l) := rfl

theorem maxL_ge (l : List ℝ) (a : ℝ) : a ≤ maxL a l ∧ ∀ v ∈ l, v ≤ maxL a l :=
  List.forall_mem_cons.mp ((List.max?_le_iff (maxL_eq l a)).1 le_rfl)

theorem maxL_mem (l : List ℝ) (a : ℝ) : maxL a l ∈ a :: l := List.max?_mem (maxL_eq l a)

/-- The stable soft-max is the textbook `exp v_i / Σ_j exp v_j`: the shift cancels, whatever it is. -/
theorem softmax_eq_renorm (cl : List ℝ) : softmax cl = renorm (cl.map Real.exp) := by
  cases cl with
  | nil => rfl
  | cons a as =>
    simp only [softmax, renorm, sumL_eq, exp_eq, List.map_map, sub_eq_add_neg, Real.exp_add,
      List.sum_map_mul_right]
    exact List.map_congr_left fun v _ => mul_div_mul_right _ _ (Real.exp_pos _).ne'

theorem softmax_spec (lps : List ℝ) (hne : lps ≠ []) :
    (softmax lps).length = lps.length ∧ (∀ v ∈ softmax lps, 0 < v) ∧ (softmax lps).sum = 1 := by
  have hpos : ∀ v ∈ lps.map Real.exp, 0 < v := List.forall_mem_map.mpr fun v _ => Real.exp_pos v
  rw [softmax_eq_renorm]
  exact ⟨by rw [renorm_length, List.length_map], renorm_pos _ hpos,
    (renorm_spec _ (fun v hv => (hpos v hv).le) (List.sum_pos _ hpos (by simpa using hne))).2⟩

theorem leafWeights_spec (lps : List ℝ) (hne : lps ≠ []) :
    (leafWeights lps).length = lps.length ∧ (∀ v ∈ leafWeights lps, 0 < v) ∧ (leafWeights lps).sum = 1 := by
  have := softmax_spec (lps.map clampLog) (mt List.map_eq_nil_iff.mp hne)
  rwa [List.length_map] at this

theorem leafWeights_eq (lps : List ℝ) : leafWeights lps =
    lps.map (fun v => Real.exp (clampLog v) / (lps.map (fun v => Real.exp (clampLog v))).sum) := by
  simp only [leafWeights, softmax_eq_renorm, renorm, sumL_eq, List.map_map, Function.comp_def]

theorem leafWeights_getD (lps : List ℝ) (i : ℕ) (hi : i < lps.length) :
    (leafWeights lps).getD i 0 =
      Real.exp (clampLog lps[i]) / (lps.map (fun v => Real.exp (clampLog v))).sum := by
  rw [leafWeights_eq, List.getD_eq_getElem _ _ (by simpa using hi), List.getElem_map]

theorem countP_prefix {α : Type} (P : α → Bool) : ∀ (l : List α),
    l.Pairwise (fun a b => P b = true → P a = true) →
    ∀ p (hp : p < l.length), (P l[p] = true ↔ p < l.countP P)
  | [], _, p, hp => absurd hp (Nat.not_lt_zero p)
  | x :: xs, h, p, hp => by
    obtain ⟨hx, hxs⟩ := List.pairwise_cons.mp h
    by_cases hP : P x = true
    · rw [List.countP_cons_of_pos hP]
      cases p with
      | zero => exact ⟨fun _ => Nat.succ_pos _, fun _ => hP⟩
      | succ q => exact (countP_prefix P xs hxs q (Nat.lt_of_succ_lt_succ hp)).trans Nat.succ_lt_succ_iff.symm
    · have h0 : ∀ b ∈ x :: xs, ¬ P b = true := List.forall_mem_cons.mpr ⟨hP, fun b hb hb' => hP (hx b hb hb')⟩
      rw [List.countP_eq_zero.mpr h0]
      exact ⟨fun h => absurd h (h0 _ (List.getElem_mem hp)), fun h => absurd h (Nat.not_lt_zero _)⟩

theorem cumsumFrom_length (sw : List ℝ) (a : ℝ) : (cumsumFrom a sw).length = sw.length := by
  induction sw generalizing a with
  | nil => simp [cumsumFrom]
  | cons x xs ih => simp [cumsumFrom, ih]

theorem getElem_cumsumFrom : ∀ (sw : List ℝ) (a : ℝ) (p : ℕ) (hp : p < (cumsumFrom a sw).length),
    (cumsumFrom a sw)[p] = a + (sw.take (p + 1)).sum
  | [], _, p, hp => absurd hp (Nat.not_lt_zero p)
  | x :: xs, a, 0, _ => by simp [cumsumFrom]
  | x :: xs, a, p + 1, hp => by
    simp only [cumsumFrom, List.getElem_cons_succ, List.take_succ_cons, List.sum_cons]
    rw [getElem_cumsumFrom xs (a + x) p, add_assoc]

theorem pairwise_cumsumFrom (sw : List ℝ) (a : ℝ) (h : ∀ v ∈ sw, 0 ≤ v) : (cumsumFrom a sw).Pairwise (· ≤ ·) := by
  rw [List.pairwise_iff_getElem]
  intro i j hi hj hij
  rw [getElem_cumsumFrom, getElem_cumsumFrom]
  exact add_le_add_right ((List.take_sublist_take_left (Nat.succ_le_succ hij.le)).sum_le_sum
    fun v hv => h v (List.mem_of_mem_take hv)) a

/-- **The truncation rule** on a non-negative sorted row `sw`: `keep_count` never exceeds the cap, every proper
prefix it counts has mass `≤ keep`, and when the cap does not bind the next prefix reaches `keep`. -/
theorem keepCount_spec (keep : ℝ) (cap n : ℕ) (sw : List ℝ) (hsw : ∀ v ∈ sw, 0 ≤ v) :
    keepCount keep cap n sw ≤ min cap n - 1 ∧
    (∀ p < keepCount keep cap n sw, (sw.take (p + 1)).sum ≤ keep) ∧
    (keepCount keep cap n sw < min cap n - 1 → keepCount keep cap n sw < sw.length →
      keep ≤ (sw.take (keepCount keep cap n sw + 1)).sum) := by
  -- the cumulative sums increase, so `cutoff · keep` can only switch from true to false along them
  have hpre := countP_prefix (cutoff · keep) (cumsumFrom 0 sw) ((pairwise_cumsumFrom sw 0 hsw).imp (by
    intro a b hab hb
    rcases hab.lt_or_eq with h | rfl
    · exact (cutoff_spec a keep).1 (lt_of_lt_of_le h ((cutoff_spec b keep).2 hb))
    · exact hb))
  simp only [cumsumFrom_length, getElem_cumsumFrom, zero_add] at hpre
  rw [keepCount_eq]
  refine ⟨min_le_right _ _, fun p hp => ?_, fun h1 h2 => ?_⟩
  · have hp' := lt_of_lt_of_le hp (min_le_left _ _)
    exact (cutoff_spec _ keep).2
      ((hpre p (hp'.trans_le (List.countP_le_length.trans (cumsumFrom_length sw 0).le))).2 hp')
  · -- the cap does not bind: `keepCount` is the raw count
    rw [min_eq_left ((min_lt_iff.mp h1).resolve_right (lt_irrefl _)).le] at h2 ⊢
    by_contra hlt
    exact absurd ((hpre _ h2).1 ((cutoff_spec _ keep).1 (lt_of_not_ge hlt))) (lt_irrefl _)

theorem keptIdx_from (kc : ℕ) : ∀ (l : List ℕ) (s : ℕ),
    ((l.zipIdx s).filter (fun e => keepPos (e.2 : Int) (kc : Int))).map (·.1) = l.take (kc + 1 - s)
  | [], s => List.take_nil.symm
  | a :: l, s => by
    rw [List.zipIdx_cons, List.filter_cons]
    have ih := keptIdx_from kc l (s + 1)
    rcases Nat.lt_or_ge kc s with h | h
    · -- `kc + 1 - (s + 1) = 0` and `kc + 1 - s = 0`
      rw [if_neg (mt (keepPos_iff s kc).1 h.not_ge), ih, Nat.sub_eq_zero_of_le (Nat.succ_le_succ h.le),
        Nat.sub_eq_zero_of_le h, List.take_zero, List.take_zero]
    · -- `kc + 1 - s = (kc - s) + 1` and `kc + 1 - (s + 1) = kc - s`
      rw [if_pos ((keepPos_iff s kc).2 h), List.map_cons, ih, Nat.succ_sub h, Nat.add_sub_add_right,
        List.take_succ_cons]

theorem keptIdx_eq_take (perm : List ℕ) (kc : ℕ) : keptIdx perm kc = perm.take (kc + 1) :=
  keptIdx_from kc perm 0

theorem activeMask_getD (n : ℕ) (kept : List ℕ) (i : ℕ) :
    (activeMask n kept).getD i false = true ↔ i < n ∧ i ∈ kept := by
  by_cases hi : i < n <;> simp [activeMask, List.getD_eq_getElem?_getD, hi]

theorem maskW_getD (w : List ℝ) (mask : List Bool) (i : ℕ) :
    (maskW w mask).getD i 0 = if mask.getD i false then w.getD i 0 else 0 := by
  simp only [maskW, List.getD_eq_getElem?_getD, List.getElem?_zipWith]
  cases w[i]? <;> cases mask[i]? <;> simp

theorem maskW_nonneg (w : List ℝ) (hw : ∀ v ∈ w, 0 ≤ v) (mask : List Bool) : ∀ v ∈ maskW w mask, 0 ≤ v := by
  intro v hv
  obtain ⟨i, hi, rfl⟩ := List.mem_iff_getElem.mp hv
  simp only [maskW, List.getElem_zipWith]
  split
  · exact hw _ (List.getElem_mem _)
  · exact le_rfl

theorem renorm_maskW_spec (w : List ℝ) (hw : ∀ v ∈ w, 0 ≤ v) (mask : List Bool) (hlen : mask.length = w.length) (i0 : ℕ)
    (h0 : mask.getD i0 false = true) (hpos : 0 < w.getD i0 0) :
    let fw := renorm (maskW w mask)
    fw.length = w.length ∧ (∀ v ∈ fw, 0 ≤ v) ∧ fw.sum = 1 ∧ ∀ i, mask.getD i false = false → fw.getD i 0 = 0 := by
  have hnn := maskW_nonneg w hw mask
  -- the renormaliser is at least the entry at `i0`
  have hs : 0 < (maskW w mask).sum := by
    have := getD_le_sum _ hnn i0
    rw [maskW_getD, h0, if_pos rfl] at this
    exact hpos.trans_le this
  refine ⟨by rw [renorm_length, maskW, List.length_zipWith, hlen, min_self], (renorm_spec _ hnn hs).1,
    (renorm_spec _ hnn hs).2, fun i hi => ?_⟩
  rw [renorm_getD, maskW_getD, hi, if_neg Bool.false_ne_true, zero_div]

theorem convex_sum (K : List ℕ) (c g : ℕ → ℝ) (hc : ∀ i ∈ K, 0 ≤ c i) (h1 : (K.map c).sum = 1) (lo hi : ℝ)
    (hg : ∀ i ∈ K, lo ≤ g i ∧ g i ≤ hi) :
    lo ≤ (K.map (fun i => c i * g i)).sum ∧ (K.map (fun i => c i * g i)).sum ≤ hi := by
  have mono : ∀ a b : ℕ → ℝ, (∀ i ∈ K, a i ≤ b i) →
      (K.map fun i => c i * a i).sum ≤ (K.map fun i => c i * b i).sum :=
    fun a b h => List.sum_le_sum fun i hi => mul_le_mul_of_nonneg_left (h i hi) (hc i hi)
  have const : ∀ r : ℝ, (K.map fun i => c i * r).sum = r := fun r => by rw [List.sum_map_mul_right, h1, one_mul]
  exact ⟨(const lo).symm.trans_le (mono _ _ fun i hi => (hg i hi).1),
    (mono _ _ fun i hi => (hg i hi).2).trans_eq (const hi)⟩

theorem sum_map_filter_of_zero (l : List ℕ) (q : ℕ → Bool) (g : ℕ → ℝ) (h : ∀ i ∈ l, q i = false → g i = 0) :
    ((l.filter q).map g).sum = (l.map g).sum := by
  induction l with
  | nil => rfl
  | cons a l ih =>
    have ih' := ih fun i hi => h i (List.mem_cons_of_mem _ hi)
    cases hq : q a
    · rw [List.filter_cons_of_neg (by simp [hq]), ih', List.map_cons, List.sum_cons,
        h a List.mem_cons_self hq, zero_add]
    · rw [List.filter_cons_of_pos hq, List.map_cons, List.sum_cons, ih', List.map_cons, List.sum_cons]

theorem aggregate_convex (w : List ℝ) (mask : List Bool) (f : List ℝ) (hw : ∀ v ∈ w, 0 ≤ v) (hsum : w.sum = 1)
    (hoff : ∀ i, mask.getD i false = false → w.getD i 0 = 0) (lo hi : ℝ)
    (hf : ∀ i, mask.getD i false = true → lo ≤ f.getD i 0 ∧ f.getD i 0 ≤ hi) :
    lo ≤ aggregate w mask f ∧ aggregate w mask f ≤ hi := by
  rw [aggregate, sumL_eq]
  refine convex_sum _ (fun i => w.getD i 0) (fun i => f.getD i 0) (fun i _ => getD_nonneg w hw i) ?_ lo hi
    (fun i hi => hf i (List.mem_filter.mp hi).2)
  rw [sum_map_filter_of_zero _ _ _ (fun i _ => hoff i), map_getD_range, hsum]

namespace SortContract
variable {w : List ℝ} {perm : List ℕ}

theorem mem_iff (h : SortContract w perm) {i : ℕ} : i ∈ perm ↔ i < w.length :=
  h.isPerm.mem_iff.trans List.mem_range

theorem length_eq (h : SortContract w perm) : perm.length = w.length := by simpa using h.isPerm.length_eq

theorem top_le (h : SortContract w perm) (m : ℕ) : ∀ i ∈ perm.take m, ∀ j, j < w.length → j ∉ perm.take m →
    w.getD j 0 ≤ w.getD i 0 := by
  intro i hi j hj hjn
  have hjd : j ∈ perm.drop m :=
    (List.mem_append.mp (by rw [List.take_append_drop]; exact h.mem_iff.mpr hj)).resolve_left hjn
  have hs := h.sorted
  rw [← List.take_append_drop m perm, List.map_append, List.pairwise_append] at hs
  obtain ⟨-, -, hcross⟩ := hs
  exact (sortLe_iff _ _).mp (hcross _ (List.mem_map_of_mem hi) _ (List.mem_map_of_mem hjd))

theorem head_mem_take (h : SortContract w perm) (hne : w ≠ []) (m : ℕ) : perm.headD 0 ∈ perm.take (m + 1) := by
  cases perm with
  | nil => exact absurd (List.length_eq_zero_iff.mp h.length_eq.symm) hne
  | cons a l => exact List.mem_cons_self

theorem head_eq (h : SortContract w perm) (i0 : ℕ) (hi0 : i0 < w.length)
    (hmax : ∀ j, j < w.length → j ≠ i0 → w.getD j 0 < w.getD i0 0) : perm.headD 0 = i0 := by
  cases perm with
  | nil => exact absurd h.length_eq.symm (Nat.ne_zero_of_lt hi0)
  | cons a l =>
    by_contra hne
    exact absurd (hmax a (h.mem_iff.mp List.mem_cons_self) hne)
      (not_lt.mpr (h.top_le 1 a List.mem_cons_self i0 hi0 (by simpa using Ne.symm hne)))

end SortContract

/-- The merge sort used by the driver meets the contract (so the contract is satisfiable for every row). -/
theorem sortPerm_contract (w : List ℝ) : SortContract w (sortPerm w) := by
  constructor
  · exact List.mergeSort_perm _ _
  · rw [List.pairwise_map]
    unfold sortPerm
    apply List.pairwise_mergeSort
    · intro a b c hab hbc
      rw [sortLe_iff] at *
      exact le_trans hbc hab
    · intro a b
      simp only [Bool.or_eq_true, sortLe_iff]
      exact le_total _ _

/-- The indices kept for one row (proof-side only). -/
noncomputable def keptOf (keep : ℝ) (cap : ℕ) (w : List ℝ) (perm : List ℕ) : List ℕ :=
  perm.take (keepCount keep cap w.length (perm.map (fun i => w.getD i 0)) + 1)

theorem keptOf_eq (keep : ℝ) (cap : ℕ) (w : List ℝ) (perm : List ℕ) :
    keptOf keep cap w perm = perm.take (keepCount keep cap w.length (perm.map (fun i => w.getD i 0)) + 1) := rfl

theorem finalWeights_eq (keep : ℝ) (cap : ℕ) (w : List ℝ) (perm : List ℕ) :
    finalWeights keep cap w perm =
      (activeMask w.length (keptOf keep cap w perm),
       renorm (maskW w (activeMask w.length (keptOf keep cap w perm)))) := by
  simp only [finalWeights, keptOf_eq, keptIdx_eq_take]

theorem active_iff (keep : ℝ) (cap : ℕ) {w : List ℝ} {perm : List ℕ} (hs : SortContract w perm) (i : ℕ) :
    (finalWeights keep cap w perm).1.getD i false = true ↔ i ∈ keptOf keep cap w perm := by
  rw [finalWeights_eq, activeMask_getD]
  exact and_iff_right_of_imp fun h => hs.mem_iff.mp (List.mem_of_mem_take h)

theorem finalWeights_spec (keep : ℝ) (cap : ℕ) (w : List ℝ) (hw : ∀ v ∈ w, 0 < v) (hne : w ≠ []) (perm : List ℕ)
    (hs : SortContract w perm) :
    (finalWeights keep cap w perm).2.length = w.length ∧ (∀ v ∈ (finalWeights keep cap w perm).2, 0 ≤ v) ∧
    (finalWeights keep cap w perm).2.sum = 1 ∧
    ∀ i, (finalWeights keep cap w perm).1.getD i false = false → (finalWeights keep cap w perm).2.getD i 0 = 0 := by
  have hh : perm.headD 0 ∈ keptOf keep cap w perm := hs.head_mem_take hne _
  have hlt := hs.mem_iff.mp (List.mem_of_mem_take hh)
  have h0 := (active_iff keep cap hs _).mpr hh
  rw [finalWeights_eq] at h0 ⊢
  exact renorm_maskW_spec w (fun v hv => (hw v hv).le) _ (by rw [activeMask, List.length_map, List.length_range]) _ h0
    (by rw [List.getD_eq_getElem w 0 hlt]; exact hw _ (List.getElem_mem hlt))

theorem keptOf_dominant (keep : ℝ) (cap : ℕ) (w : List ℝ) (hw : ∀ v ∈ w, 0 ≤ v) (perm : List ℕ)
    (hdom : keep < w.getD (perm.headD 0) 0 ∨ cap = 1) (hp : perm ≠ []) :
    keptOf keep cap w perm = [perm.headD 0] := by
  obtain ⟨a, l, rfl⟩ := List.exists_cons_of_ne_nil hp
  obtain ⟨h1, h2, -⟩ := keepCount_spec keep cap w.length ((a :: l).map (fun i => w.getD i 0))
    (List.forall_mem_map.mpr fun i _ => getD_nonneg w hw i)
  have hkc : keepCount keep cap w.length ((a :: l).map (fun i => w.getD i 0)) = 0 := by
    rcases hdom with hdom | rfl
    · by_contra hpos
      -- a positive count would put the first prefix sum, the head weight, at or below `keep`
      have := h2 0 (Nat.pos_of_ne_zero hpos)
      simp only [List.map_cons, zero_add, List.take_succ_cons, List.take_zero, List.sum_cons, List.sum_nil,
        add_zero] at this
      exact absurd this (not_le.mpr hdom)
    · exact Nat.le_zero.mp (h1.trans (Nat.sub_eq_zero_of_le (min_le_left 1 _)).le)
  rw [keptOf_eq, hkc]; rfl

theorem logSigmoid_def (t : ℝ) : logSigmoid t = -Real.log (1 + Real.exp (-t)) := rfl

theorem logSigmoid_nonpos (t : ℝ) : logSigmoid t ≤ 0 :=
  neg_nonpos.mpr (Real.log_nonneg (le_add_of_nonneg_right (Real.exp_pos _).le))

theorem logSigmoid_le_self (t : ℝ) : logSigmoid t ≤ t := by
  have h := Real.log_le_log (Real.exp_pos (-t)) (le_add_of_nonneg_left zero_le_one)
  rw [Real.log_exp] at h
  exact neg_le.mp h

theorem log_sigmoid (t : ℝ) : Real.log (sigmoid t) = logSigmoid t := by
  rw [sigmoid, one_div, Real.log_inv, logSigmoid_def]

theorem pathStep_some (T : ℝ) (x : List ℝ) (acc : ℝ) (ge : Gate ℝ × Bool) :
    pathStep T x acc (some ge.1, ge.2) = acc + docTerm T x ge := by
  rw [docTerm, log_sigmoid]
  exact (gateTerm_eq _ _ _ _).trans (by rw [gateZ, nodeLogit_eq])

theorem pathLogP_acc (T : ℝ) (x : List ℝ) (p : List (Gate ℝ × Bool)) (acc : ℝ) :
    (p.map (fun ge => ((some ge.1 : Option (Gate ℝ)), ge.2))).foldl (pathStep T x) acc =
      acc + (p.map (docTerm T x)).sum := by
  induction p generalizing acc with
  | nil => simp
  | cons ge p ih => rw [List.map_cons, List.foldl_cons, ih, pathStep_some, List.map_cons, List.sum_cons, add_assoc]

theorem pathLogP_documented (T : ℝ) (x : List ℝ) (p : List (Gate ℝ × Bool)) :
    pathLogP T x (p.map (fun ge => (some ge.1, ge.2))) = (p.map (docTerm T x)).sum :=
  (pathLogP_acc T x p 0).trans (zero_add _)

theorem rowLogPs_documented {μ : Type} (T : ℝ) (t : Tree ℝ μ) (x : List ℝ) :
    rowLogPs T (buildCache t) x = (pathsSpec t).map (fun e => (e.2.map (docTerm T x)).sum) := by
  have h := congrArg (List.map (fun e : μ × List (Option (Gate ℝ) × Bool) => pathLogP T x e.2)) (cache_resolve t)
  simp only [List.map_map, Function.comp_def] at h
  simp only [rowLogPs, leafLogP]
  rw [h]
  apply List.map_congr_left
  intro e _
  exact pathLogP_documented T x e.2

theorem rowLogPs_length {μ : Type} (T : ℝ) (t : Tree ℝ μ) (x : List ℝ) :
    (rowLogPs T (buildCache t) x).length = t.nleaves := by
  simp [rowLogPs, cache_leaves_length]

theorem rowWeights_spec {μ : Type} (T : ℝ) (t : Tree ℝ μ) (x : List ℝ) :
    (leafWeights (rowLogPs T (buildCache t) x)).length = t.nleaves ∧
    (∀ v ∈ leafWeights (rowLogPs T (buildCache t) x), 0 < v) ∧
    leafWeights (rowLogPs T (buildCache t) x) ≠ [] := by
  obtain ⟨hlen, hpos, -⟩ := leafWeights_spec _
    (List.ne_nil_of_length_pos ((rowLogPs_length T t x).symm ▸ nleaves_pos t) : rowLogPs T (buildCache t) x ≠ [])
  rw [rowLogPs_length] at hlen
  exact ⟨hlen, hpos, List.ne_nil_of_length_pos (hlen ▸ nleaves_pos t)⟩

theorem docTerm_eq (T : ℝ) (x : List ℝ) (g : Gate ℝ) (b : Bool) :
    docTerm T x (g, b) =
      logSigmoid ((if b then -((dot x g.dir - g.thr) / g.scale) else (dot x g.dir - g.thr) / g.scale) / T) := by
  rw [docTerm, log_sigmoid]
  cases b <;> simp only [Bool.false_eq_true, if_false, if_true, neg_div, div_mul_eq_div_div_swap]

theorem docTerm_nonpos (T : ℝ) (x : List ℝ) (ge : Gate ℝ × Bool) : docTerm T x ge ≤ 0 := by
  rw [docTerm, log_sigmoid]
  exact logSigmoid_nonpos _

theorem hardPath_split {μ : Type} (x : List ℝ) (t : Tree ℝ μ) :
    ∃ P1 e P2, pathsSpec t = P1 ++ e :: P2 ∧ P1.length = hardIndex x t ∧ e.1 = hardRoute x t ∧
      (∀ ge ∈ e.2, ge.2 = hardLeft (dot x ge.1.dir) ge.1.thr) ∧
      ∀ e' ∈ P1 ++ P2, ∃ ge ∈ e'.2, ge.2 = !hardLeft (dot x ge.1.dir) ge.1.thr := by
  induction t with
  | leaf m => exact ⟨[], (m, []), [], rfl, rfl, rfl, fun _ h => absurd h List.not_mem_nil, fun _ h => absurd h List.not_mem_nil⟩
  | node g l r ihl ihr =>
    obtain ⟨A1, a, A2, hA, hAl, hAr, hAa, hAo⟩ := ihl
    obtain ⟨B1, b, B2, hB, hBl, hBr, hBa, hBo⟩ := ihr
    rw [List.forall_mem_append] at hAo hBo
    rw [pathsSpec, hardIndex, hardRoute]
    cases hl : hardLeft (dot x g.dir) g.thr
    · refine ⟨(pathsSpec l).map (fun e => (e.1, (g, true) :: e.2)) ++ B1.map (fun e => (e.1, (g, false) :: e.2)),
        (b.1, (g, false) :: b.2), B2.map (fun e => (e.1, (g, false) :: e.2)), ?_, ?_, hBr, ?_, ?_⟩
      · rw [hB, List.map_append, List.map_cons, List.append_assoc]
      · rw [List.length_append, List.length_map, List.length_map, pathsSpec_length, hBl]; rfl
      · exact List.forall_mem_cons.mpr ⟨hl.symm, hBa⟩
      · simp only [List.forall_mem_append, List.forall_mem_map, List.exists_mem_cons_iff]
        exact ⟨⟨fun e _ => .inl (by rw [hl]; rfl), fun e he => .inr (hBo.1 e he)⟩, fun e he => .inr (hBo.2 e he)⟩
    · refine ⟨A1.map (fun e => (e.1, (g, true) :: e.2)), (a.1, (g, true) :: a.2),
        A2.map (fun e => (e.1, (g, true) :: e.2)) ++ (pathsSpec r).map (fun e => (e.1, (g, false) :: e.2)),
        ?_, ?_, hAr, ?_, ?_⟩
      · rw [hA, List.map_append, List.map_cons, List.append_assoc, List.cons_append]
      · rw [List.length_map, hAl]; rfl
      · exact List.forall_mem_cons.mpr ⟨hl.symm, hAa⟩
      · simp only [List.forall_mem_append, List.forall_mem_map, List.exists_mem_cons_iff]
        exact ⟨fun e he => .inr (hAo.1 e he), fun e he => .inr (hAo.2 e he), fun e _ => .inl (by rw [hl]; rfl)⟩

theorem hardIndex_lt {μ : Type} (x : List ℝ) (t : Tree ℝ μ) : hardIndex x t < t.nleaves := by
  obtain ⟨P1, e, P2, he, hlen, -⟩ := hardPath_split x t
  rw [← pathsSpec_length, he, ← hlen, List.length_append, List.length_cons]
  exact Nat.lt_add_of_pos_right (Nat.succ_pos _)

theorem hard_pred {μ : Type} (x : List ℝ) (t : Tree ℝ μ) (f : μ → ℝ) :
    ((pathsSpec t).map (fun e => f e.1)).getD (hardIndex x t) 0 = f (hardRoute x t) := by
  obtain ⟨P1, e, P2, he, hlen, hroute, -⟩ := hardPath_split x t
  rw [he, ← hlen, ← hroute, List.map_append, List.getD_append_right _ _ _ _ (by rw [List.length_map]),
    List.length_map, Nat.sub_self]
  rfl

theorem dominant_split (lps L1 L2 : List ℝ) (u : ℝ) (h : lps = L1 ++ u :: L2) (hL : ∀ v ∈ L1 ++ L2, v ≤ logClamp)
    (hu : logClamp < u) :
    (leafWeights lps).getD L1.length 0 = Real.exp u / (Real.exp u + ((lps.length : ℝ) - 1) * Real.exp logClamp) ∧
    ∀ i, i < lps.length → i ≠ L1.length → (leafWeights lps).getD i 0 < (leafWeights lps).getD L1.length 0 := by
  subst h
  have hE : ∀ v ∈ L1 ++ L2, Real.exp (clampLog v) = Real.exp logClamp := fun v hv => by
    rw [clampLog_of_le v (hL v hv)]
  -- the normaliser: `exp u` and `N − 1` copies of `exp clamp`
  have hsum : ((L1 ++ u :: L2).map (fun v => Real.exp (clampLog v))).sum =
      Real.exp u + (((L1 ++ u :: L2).length : ℝ) - 1) * Real.exp logClamp := by
    have hp : (L1 ++ u :: L2).Perm (u :: (L1 ++ L2)) := List.perm_middle
    rw [(hp.map _).sum_eq, hp.length_eq, List.map_cons, List.sum_cons, clampLog_of_ge u hu.le,
      List.sum_eq_card_nsmul _ (Real.exp logClamp) (List.forall_mem_map.mpr hE), List.length_map, List.length_cons,
      Nat.cast_succ, add_sub_cancel_right, nsmul_eq_mul]
  have hS : 0 < ((L1 ++ u :: L2).map (fun v => Real.exp (clampLog v))).sum :=
    List.sum_pos _ (List.forall_mem_map.mpr fun v _ => Real.exp_pos _) (by simp)
  rw [leafWeights_getD _ _ (by simp), List.getElem_of_append rfl rfl, clampLog_of_ge u hu.le, ← hsum]
  refine ⟨rfl, fun i hi hne => ?_⟩
  have hmem : (L1 ++ u :: L2)[i] ∈ L1 ++ L2 := by
    have : (L1 ++ u :: L2).eraseIdx L1.length = L1 ++ L2 := by
      rw [List.eraseIdx_append_of_length_le le_rfl, Nat.sub_self, List.eraseIdx_cons_zero]
    rw [← this]
    exact List.mem_eraseIdx_iff_getElem.mpr ⟨i, hi, hne, rfl⟩
  rw [leafWeights_getD _ _ hi, hE _ hmem]
  exact div_lt_div_of_pos_right (Real.exp_lt_exp.mpr hu) hS

section limits
open Filter Topology

theorem logSigmoid_tendsto_atTop : Tendsto (fun y : ℝ => logSigmoid y) atTop (𝓝 0) := by
  have h1 := Real.tendsto_exp_neg_atTop_nhds_zero.const_add 1
  rw [add_zero] at h1
  have h2 := ((Real.continuousAt_log one_ne_zero).tendsto.comp h1).neg
  rwa [Real.log_one, neg_zero] at h2

theorem tendsto_div_nhdsGT_zero {c : ℝ} (hc : 0 < c) : Tendsto (fun T : ℝ => c / T) (𝓝[>] 0) atTop := by
  simp only [div_eq_mul_inv]
  exact tendsto_inv_nhdsGT_zero.const_mul_atTop hc

theorem logSigmoid_pos_limit (c : ℝ) (hc : 0 < c) :
    Tendsto (fun T : ℝ => logSigmoid (c / T)) (𝓝[>] 0) (𝓝 0) :=
  logSigmoid_tendsto_atTop.comp (tendsto_div_nhdsGT_zero hc)

theorem logSigmoid_neg_limit (c : ℝ) (hc : 0 < c) :
    Tendsto (fun T : ℝ => logSigmoid (-(c / T))) (𝓝[>] 0) atBot :=
  tendsto_atBot_mono (fun _ => logSigmoid_le_self _) (tendsto_neg_atTop_atBot.comp (tendsto_div_nhdsGT_zero hc))

theorem docTerm_limits (x : List ℝ) (g : Gate ℝ) (hs : 0 < g.scale) (hne : dot x g.dir ≠ g.thr) :
    Tendsto (fun T => docTerm T x (g, hardLeft (dot x g.dir) g.thr)) (𝓝[>] 0) (𝓝 0) ∧
    Tendsto (fun T => docTerm T x (g, !hardLeft (dot x g.dir) g.thr)) (𝓝[>] 0) atBot := by
  rcases lt_or_gt_of_ne hne with h | h
  · have hl := (hardLeft_spec _ _).1 h
    have hc : 0 < -((dot x g.dir - g.thr) / g.scale) := neg_pos.mpr (div_neg_of_neg_of_pos (sub_neg.mpr h) hs)
    simp only [docTerm_eq, hl, Bool.not_true, if_true, Bool.false_eq_true, if_false]
    exact ⟨logSigmoid_pos_limit _ hc, by simpa only [neg_neg, neg_div] using logSigmoid_neg_limit _ hc⟩
  · have hl := (hardLeft_spec _ _).2 h
    have hc : 0 < (dot x g.dir - g.thr) / g.scale := div_pos (sub_pos.mpr h) hs
    simp only [docTerm_eq, hl, Bool.not_false, if_true, Bool.false_eq_true, if_false]
    exact ⟨logSigmoid_pos_limit _ hc, by simpa only [neg_div] using logSigmoid_neg_limit _ hc⟩

theorem pathSum_limits (x : List ℝ) (p : List (Gate ℝ × Bool))
    (hg : ∀ ge ∈ p, 0 < ge.1.scale ∧ dot x ge.1.dir ≠ ge.1.thr) :
    ((∀ ge ∈ p, ge.2 = hardLeft (dot x ge.1.dir) ge.1.thr) →
      Tendsto (fun T => (p.map (docTerm T x)).sum) (𝓝[>] 0) (𝓝 0)) ∧
    ((∃ ge ∈ p, ge.2 = !hardLeft (dot x ge.1.dir) ge.1.thr) →
      Tendsto (fun T => (p.map (docTerm T x)).sum) (𝓝[>] 0) atBot) := by
  constructor
  · intro h
    have := tendsto_list_sum p (f := fun ge T => docTerm T x ge) (a := fun _ => 0) (x := 𝓝[>] 0) fun ge hge => by
      have := (docTerm_limits x ge.1 (hg ge hge).1 (hg ge hge).2).1
      rwa [← h ge hge] at this
    simpa using this
  · rintro ⟨ge, hge, h⟩
    have := (docTerm_limits x ge.1 (hg ge hge).1 (hg ge hge).2).2
    rw [← h] at this
    -- a sum of non-positive terms is below each of them (`single_le_sum` in the order dual)
    exact tendsto_atBot_mono (fun T => List.single_le_sum (M := ℝᵒᵈ)
      (List.forall_mem_map.mpr fun _ _ => docTerm_nonpos T x _) _ (List.mem_map_of_mem hge)) this

theorem eventually_lt_exp_div {ι : Type} {F : Filter ι} {U : ι → ℝ} (hU : Tendsto U F (𝓝 0)) {c keep : ℝ}
    (hc : 0 ≤ c) (hk : keep < 1 / (1 + c)) : ∀ᶠ T in F, keep < Real.exp (U T) / (Real.exp (U T) + c) := by
  have hE := (Real.continuous_exp.tendsto 0).comp hU
  rw [Real.exp_zero] at hE
  exact (hE.div (hE.add_const c) (by positivity)).eventually (lt_mem_nhds hk)

theorem eventually_hard_dominant {μ : Type} (t : Tree ℝ μ) (x : List ℝ) (keep : ℝ)
    (hg : ∀ g ∈ t.gatesPre, 0 < g.scale ∧ dot x g.dir ≠ g.thr)
    (hkeep : keep < 1 / (1 + ((t.nleaves : ℝ) - 1) * Real.exp logClamp)) :
    ∀ᶠ T in 𝓝[>] (0 : ℝ),
      keep < (leafWeights (rowLogPs T (buildCache t) x)).getD (hardIndex x t) 0 ∧
      ∀ j, j < t.nleaves → j ≠ hardIndex x t →
        (leafWeights (rowLogPs T (buildCache t) x)).getD j 0 <
          (leafWeights (rowLogPs T (buildCache t) x)).getD (hardIndex x t) 0 := by
  obtain ⟨P1, e, P2, he, hlen, -, hagree, hother⟩ := hardPath_split x t
  have hmem : ∀ e' ∈ P1 ++ e :: P2, ∀ ge ∈ e'.2, 0 < ge.1.scale ∧ dot x ge.1.dir ≠ ge.1.thr :=
    he ▸ fun e' he' ge hge => hg _ (mem_gatesPre_of_mem_pathsSpec t e' he' ge hge)
  rw [List.forall_mem_append, List.forall_mem_cons] at hmem
  obtain ⟨hm1, hme, hm2⟩ := hmem
  -- the hard-routed leaf's log-probability tends to 0, all others to −∞
  have hU := (pathSum_limits x e.2 hme).1 hagree
  have ev1 : ∀ᶠ T in 𝓝[>] (0 : ℝ), ∀ e' ∈ P1 ++ P2, (e'.2.map (docTerm T x)).sum ≤ logClamp :=
    (eventually_all_finite (List.finite_toSet _)).mpr fun e' he' =>
      ((pathSum_limits x e'.2 (List.forall_mem_append.mpr ⟨hm1, hm2⟩ e' he')).2
        (hother e' he')).eventually (eventually_le_atBot _)
  filter_upwards [ev1, hU.eventually (lt_mem_nhds logClamp_neg), eventually_lt_exp_div hU
    (mul_nonneg (sub_nonneg.mpr (Nat.one_le_cast.mpr (nleaves_pos t))) (Real.exp_pos _).le) hkeep] with T h1 h2 h3
  obtain ⟨htop, hstrict⟩ := dominant_split (rowLogPs T (buildCache t) x) (P1.map fun e => (e.2.map (docTerm T x)).sum)
    (P2.map fun e => (e.2.map (docTerm T x)).sum) _ (by rw [rowLogPs_documented, he, List.map_append, List.map_cons])
    (by rw [← List.map_append]; exact List.forall_mem_map.mpr h1) h2
  rw [List.length_map, hlen, rowLogPs_length] at htop hstrict
  exact ⟨htop ▸ h3, hstrict⟩
end limits

end Xrfmv.Soft
