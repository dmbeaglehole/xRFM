/-
The regenerated kernel pipelines (`Gen.KernelOps`, one per CPU kernel class, translated from the statements of
`_get_kernel_matrix_impl`) compute, at `ℝ`, the closed forms of `Model/Kernel.lean`.
-/
import Xrfmv.Model.KernelGen
import Xrfmv.Lemmas.Kernel

namespace Xrfmv.KernelOps
open Xrfmv Xrfmv.Kernel

theorem runOps_nil (v : ℝ) : runOps ([] : List (Op ℝ)) v = v := rfl

theorem runOps_cons (op : Op ℝ) (ops : List (Op ℝ)) (v : ℝ) :
    runOps (op :: ops) v = runOps ops (op.apply v) := rfl

theorem guarded_pow {b : Bool} {q : ℝ} (hb : b = false → q = 1) (v : ℝ) :
    (Op.guarded b (.pow q)).apply v = v ^ q := by
  cases b
  · rw [hb rfl, Real.rpow_one]; rfl
  · rfl

/-- The four distance kernels: each regenerated chain computes the Laplace profile of the kernel's own distance.  The chain is
run and its value compared; tested by regenerating: `pow_(q)` behind `if q != 1` / `if 1 != q` or bare, in any class; the `clamp_`
after a `cdist` dropped; `sqrt_(); pow_(q)` written `pow_(q/2)`; the factor `-1/L^q` written, or split over several `mul_`, in any
way `ring` identifies.  Not covered: `L ** -q` (needs `0 ≤ L`). -/
theorem pipeline_eq_lap_dist (K : Spec ℝ) (hs : K.isSumPower = false) (dim : ℝ) (T : Transform ℝ) (x z : List ℝ) :
    entry (pipelineOf K dim) T x z = lap K.q K.L (dist K T x z) := by
  cases K
  case sumPower => cases hs
  all_goals
    dsimp only [entry, pipelineOf, paramsOf, Gen.KernelOps.laplace, Gen.KernelOps.light, Gen.KernelOps.product,
      Gen.KernelOps.lpq, runOps_cons, runOps_nil, Op.apply, Spec.q, Spec.L, Kernel.dist]
    -- where `pow_(q)` stands behind a test: the test fails at `q = 1` only (`subst` takes `q = 1` and `1 = q`)
    try
      rw [guarded_pow]
      on_goal 2 => intro h; simp only [bne_eq_false_iff_eq] at h; subst h; rfl
    -- a `cdist` needs no clamp, `sqrt_(); pow_(q)` is `pow_(q/2)`; the scalars under `Real.exp` are left
    simp only [lap, exp_real, rpow_real, sqrt_real, max_eq_left (pdist_nonneg _ _ _),
      ← Real.rpow_div_two_eq_sqrt _ (le_max_right _ _)]
    congr 1; ring

theorem laplace_eq {q L : ℝ} (dim : ℝ) (T : Transform ℝ) (x z : List ℝ) :
    entry (pipelineOf (.laplace q L) dim) T x z = Kernel.entry (.laplace q L) T x z :=
  pipeline_eq_lap_dist (.laplace q L) rfl dim T x z

theorem sumPower_pre (P : Params ℝ) (d : ℝ) :
    runOps (Gen.KernelOps.sumPower P).pre d = lap P.exponent P.bandwidth |d| := by
  dsimp only [Gen.KernelOps.sumPower, runOps_cons, runOps_nil, Op.apply, lap, rpow_real, exp_real, abs_real]
  congr 1; ring

theorem sumPower_post (P : Params ℝ) (s : ℝ) :
    runOps (Gen.KernelOps.sumPower P).post s = ((1 - P.constMix) * (s / P.dim) + P.constMix) ^ P.power := by
  dsimp only [Gen.KernelOps.sumPower, runOps_cons, runOps_nil, Op.apply, rpow_real]
  congr 1; ring

/-- The sum-power kernel, through the two stages; their scalars are compared by `ring` as above, a test before `pow_` is not
covered. -/
theorem sumPower_eq {q L c P : ℝ} (T : Transform ℝ) (x z : List ℝ)
    (hlen : (applyT T z).length = (applyT T x).length) :
    entry (pipelineOf (.sumPower q L c P) (count (applyT T x))) T x z
      = Kernel.entry (.sumPower q L c P) T x z := by
  -- the closed form divides by the number of profiles, the code by `x.shape[1]`
  have hn : count ((absDiffs (applyT T x) (applyT T z)).map fun t => exp (-(rpow t q) / rpow L q))
      = count (applyT T x) := by
    rw [count_eq_length, count_eq_length, List.length_map, absDiffs, List.length_zipWith, hlen, min_self]
  show runOps (Gen.KernelOps.sumPower _).post
      (sumL ((List.zipWith _ _ _).map (runOps (Gen.KernelOps.sumPower _).pre))) = sumPowerCore q L c P _ _
  rw [sumPowerCore, hn, sumPower_post]
  -- both sides: the profiles under one `zipWith` over the two rows
  simp only [sumPower_pre, paramsOf, absDiffs, List.map_zipWith, lap, rpow_real, abs_real]

end Xrfmv.KernelOps
