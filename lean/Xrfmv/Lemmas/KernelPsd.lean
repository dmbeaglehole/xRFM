/-
Gram matrices of the Lpq Laplace kernel of `Model/Kernel.lean` are positive semi-definite for
`0 < q ≤ p ≤ 2` (any transform, any dimension, any number of points): behind a transform all points of one dimension
become vectors of one length (`posSemidef_comp_applyT`), where `Psd.posSemidef_lpq` (`Lemmas/PsdLpq.lean`) applies;
a Gram matrix is a pull-back of the kernel along the family of points.  The same route gives the sum-power kernel with a
natural power (`entry_sumPower_posSemidef`, from `Psd.posSemidef_sumPower`).
-/
import Xrfmv.Lemmas.Kernel
import Xrfmv.Lemmas.PsdLpq

namespace Xrfmv.Kernel
open Xrfmv Xrfmv.Psd Matrix

theorem posSemidef_comp_applyT {κ : List ℝ → List ℝ → ℝ}
    (h : ∀ m, (of fun a b : Fin m → ℝ => κ (List.ofFn a) (List.ofFn b)).PosSemidef) (T : Transform ℝ) (d : ℕ) :
    (of fun x z : Fin d → ℝ => κ (applyT T (List.ofFn x)) (applyT T (List.ofFn z))).PosSemidef := by
  have hU : ∀ x : Fin d → ℝ, applyT T (List.ofFn x) =
      List.ofFn fun k : Fin (tlen T d) => (applyT T (List.ofFn x)).getD k 0 := fun x =>
    eq_ofFn_getD _ (by rw [applyT_length, List.length_ofFn]) 0
  simpa only [submatrix, of_apply, ← hU] using
    (h (tlen T d)).submatrix fun (x : Fin d → ℝ) (k : Fin (tlen T d)) => (applyT T (List.ofFn x)).getD k 0

theorem lpqCore_ofFn (p q L : ℝ) {m : ℕ} (a b : Fin m → ℝ) :
    lpqCore p q L (List.ofFn a) (List.ofFn b) =
      Real.exp (-(1 / L ^ q * (∑ k, |a k - b k| ^ p) ^ (q / p))) := by
  have h0 : 0 ≤ ∑ k, |a k - b k| ^ p :=
    Finset.sum_nonneg fun k _ => Real.rpow_nonneg (abs_nonneg _) _
  simp only [lpqCore, lap, pdist, powSum_ofFn, rpow_real, exp_real]
  rw [← Real.rpow_mul h0, one_div_mul_eq_div]
  congr 1; ring

theorem sumPowerCore_ofFn (q L c : ℝ) (P : ℕ) {m : ℕ} (a b : Fin m → ℝ) :
    sumPowerCore q L c (P : ℝ) (List.ofFn a) (List.ofFn b) =
      ((1 - c) * ((∑ k, Real.exp (-(1 / L ^ q * |a k - b k| ^ q))) / (m : ℝ)) + c) ^ P := by
  have h : ∀ t : ℝ, Real.exp (-(t ^ q) / L ^ q) = Real.exp (-(1 / L ^ q * t ^ q)) := fun t => by congr 1; ring
  simp only [sumPowerCore, absDiffs, zipWith_ofFn, List.map_ofFn, Function.comp_def, sumL_ofFn,
    count_eq_length, List.length_ofFn, abs_real, rpow_real, exp_real, Real.rpow_natCast, h]

theorem entry_lpq_posSemidef {p q L : ℝ} (hq : 0 < q) (hqp : q ≤ p) (hp2 : p ≤ 2) (hL : 0 < L) (T : Transform ℝ)
    (d : ℕ) : (of fun x z : Fin d → ℝ => entry (.lpq p q L) T (List.ofFn x) (List.ofFn z)).PosSemidef :=
  posSemidef_comp_applyT (κ := lpqCore p q L) (fun m => by
    simpa only [lpqCore_ofFn] using
      posSemidef_lpq m hq hqp hp2 (c := 1 / L ^ q) (one_div_nonneg.2 (Real.rpow_nonneg hL.le q))) T d

theorem entry_sumPower_posSemidef {q L c : ℝ} (hq : 0 < q) (hq2 : q ≤ 2) (hL : 0 < L) (hc0 : 0 ≤ c) (hc1 : c ≤ 1)
    (P : ℕ) (T : Transform ℝ) (d : ℕ) :
    (of fun x z : Fin d → ℝ => entry (.sumPower q L c (P : ℝ)) T (List.ofFn x) (List.ofFn z)).PosSemidef :=
  posSemidef_comp_applyT (κ := sumPowerCore q L c P) (fun m => by
    simpa only [sumPowerCore_ofFn] using
      posSemidef_sumPower m hq hq2 (c := 1 / L ^ q) (one_div_nonneg.2 (Real.rpow_nonneg hL.le q)) hc0 hc1 P) T d

/-- Gram matrix of a kernel at the centers `xs` (what `(K + λI)α = Y` is solved with). -/
noncomputable def gram (K : Spec ℝ) (T : Transform ℝ) {d n : ℕ} (xs : Fin n → Fin d → ℝ) :
    Matrix (Fin n) (Fin n) ℝ :=
  Matrix.of fun i j => entry K T (List.ofFn (xs i)) (List.ofFn (xs j))

theorem gram_apply (K : Spec ℝ) (T : Transform ℝ) {d n : ℕ} (xs : Fin n → Fin d → ℝ) (i j : Fin n) :
    gram K T xs i j = entry K T (List.ofFn (xs i)) (List.ofFn (xs j)) := rfl

theorem gram_lpq_posSemidef {p q L : ℝ} (hq : 0 < q) (hqp : q ≤ p) (hp2 : p ≤ 2) (hL : 0 < L)
    (T : Transform ℝ) {d n : ℕ} (xs : Fin n → Fin d → ℝ) : (gram (.lpq p q L) T xs).PosSemidef :=
  (entry_lpq_posSemidef hq hqp hp2 hL T d).submatrix xs

theorem gram_sumPower_posSemidef {q L c : ℝ} (hq : 0 < q) (hq2 : q ≤ 2) (hL : 0 < L) (hc0 : 0 ≤ c)
    (hc1 : c ≤ 1) (P : ℕ) (T : Transform ℝ) {d n : ℕ} (xs : Fin n → Fin d → ℝ) :
    (gram (.sumPower q L c (P : ℝ)) T xs).PosSemidef :=
  (entry_sumPower_posSemidef hq hq2 hL hc0 hc1 P T d).submatrix xs

theorem gram_laplace_eq (q L : ℝ) (T : Transform ℝ) {d n : ℕ} (xs : Fin n → Fin d → ℝ) :
    gram (.laplace q L) T xs = gram (.lpq 2 q L) T xs := rfl

theorem gram_product_eq {q : ℝ} (hq : 0 < q) (L : ℝ) (T : Transform ℝ) {d n : ℕ} (xs : Fin n → Fin d → ℝ) :
    gram (.product q L) T xs = gram (.lpq q q L) T xs := by
  ext i j
  rw [gram_apply, gram_apply]
  exact productCore_eq_lpq hq L _ _

end Xrfmv.Kernel
