/- A positive semi-definite kernel on an arbitrary type `X` is a matrix `Matrix X X ℝ` that is `Matrix.PosSemidef`
(Mathlib tests the quadratic form on finitely supported weights, for any index type).  Sums, non-negative multiples,
entrywise products (`PosSemidef.hadamard`, the Schur product theorem) and pull-backs along any map
(`PosSemidef.submatrix`; in particular every finite Gram matrix) come from Mathlib.  Added here: rank one, pointwise
limits, entrywise `exp`, recentring at a base point, conditionally negative definite kernels and Schoenberg's theorem.
The lemmas `_root_.Matrix.PosSemidef.*` below sit in Mathlib's namespace for the sake of dot notation: a later Mathlib may
bring its own `hadamard_pow` / `hadamard_exp`. -/
import Mathlib.Analysis.Matrix.Order
import Mathlib.Analysis.SpecialFunctions.Exponential

namespace Xrfmv.Psd
open Matrix Finset

variable {X : Type*}

/-- Mathlib's `PosSemidef.smul` at `ℝ`, stated once: the general lemma is elaborated with its instance arguments anew at every
use (much elaboration work, though not noticeable in seconds), and `isCND_sq_sub` as written does not elaborate with it. -/
theorem _root_.Matrix.PosSemidef.smul_real {k : Matrix X X ℝ} (h : k.PosSemidef) {c : ℝ} (hc : 0 ≤ c) :
    (c • k).PosSemidef :=
  h.smul hc

theorem posSemidef_rankOne (f : X → ℝ) : (of fun x y => f x * f y).PosSemidef := by
  refine ⟨IsHermitian.ext fun x y => mul_comm _ _, fun μ => (sq_nonneg (μ.sum fun i a => a * f i)).trans_eq ?_⟩
  simp only [Finsupp.sum, star_trivial, sq, Finset.sum_mul_sum, of_apply]
  exact sum_congr rfl fun i _ => sum_congr rfl fun j _ => by ring

theorem posSemidef_const {c : ℝ} (hc : 0 ≤ c) : (of fun _ _ : X => c).PosSemidef := by
  convert (posSemidef_rankOne fun _ : X => (1 : ℝ)).smul_real hc using 1
  ext; simp

theorem _root_.Matrix.PosSemidef.sum_mul_nonneg {k : Matrix X X ℝ} (h : k.PosSemidef) {n : ℕ} (xs : Fin n → X)
    (w : Fin n → ℝ) : 0 ≤ ∑ i, ∑ j, w i * w j * k (xs i) (xs j) := by
  refine ((h.submatrix xs).dotProduct_mulVec_nonneg w).trans_eq ?_
  simp only [dotProduct, mulVec, submatrix_apply, star_trivial, Pi.star_apply, mul_sum]
  exact sum_congr rfl fun i _ => sum_congr rfl fun j _ => by ring

theorem _root_.Matrix.PosSemidef.hadamard_pow {k : Matrix X X ℝ} (h : k.PosSemidef) (m : ℕ) :
    (of fun x y => k x y ^ m).PosSemidef := by
  induction m with
  | zero => simpa only [pow_zero] using posSemidef_const (X := X) zero_le_one
  | succ m ih => simp only [pow_succ]; exact ih.hadamard h

theorem posSemidef_of_tendsto {k : Matrix X X ℝ} {kN : ℕ → Matrix X X ℝ} (hN : ∀ N, (kN N).PosSemidef)
    (hlim : ∀ x y, Filter.Tendsto (fun N => kN N x y) Filter.atTop (nhds (k x y))) : k.PosSemidef := by
  refine ⟨IsHermitian.ext fun x y => tendsto_nhds_unique (l := Filter.atTop) ?_ (hlim x y), fun μ => ?_⟩
  · simpa only [star_trivial, ← (hN _).1.apply x y] using hlim y x
  · exact ge_of_tendsto' (tendsto_finsetSum _ fun i _ => tendsto_finsetSum _ fun j _ =>
      ((hlim i j).const_mul _).mul_const _) fun N => (hN N).2 μ

/-- Entrywise `exp` keeps PSD: the partial sums of the power series are PSD by the Schur product theorem. -/
theorem _root_.Matrix.PosSemidef.hadamard_exp {k : Matrix X X ℝ} (h : k.PosSemidef) :
    (of fun x y => Real.exp (k x y)).PosSemidef := by
  refine posSemidef_of_tendsto (kN := fun N => ∑ m ∈ range N, ((m.factorial : ℝ))⁻¹ • of fun x y => k x y ^ m)
    (fun N => posSemidef_sum _ fun m _ => (h.hadamard_pow m).smul_real (inv_nonneg.2 m.factorial.cast_nonneg)) fun x y => ?_
  have := NormedSpace.expSeries_div_hasSum_exp (𝔸 := ℝ) (k x y)
  rw [← Real.exp_eq_exp_ℝ] at this
  simpa only [Matrix.sum_apply, Matrix.smul_apply, of_apply, smul_eq_mul, div_eq_inv_mul] using this.tendsto_sum_nat

/-- Recentring at a base point: if `k` is the Gram kernel of `Φ`, this is the Gram kernel of `Φ − Φ x₀`. -/
theorem _root_.Matrix.PosSemidef.recentre {k : Matrix X X ℝ} (h : k.PosSemidef) (x0 : X) :
    (of fun x y => k x y - k x x0 - k x0 y + k x0 x0).PosSemidef := by
  classical
  have hs : ∀ x y, k y x = k x y := fun x y => by simpa using h.1.apply x y
  refine ⟨IsHermitian.ext fun x y => by simp only [of_apply, star_trivial, hs y x, hs x0 x, hs y x0]; ring,
    fun μ => ?_⟩
  -- the form of `k` at `μ − S·δ_{x₀}`, `S = Σ μ`; by bilinearity both forms are
  -- `Σᵢⱼ μᵢ k(i,j) μⱼ − S·Σᵢ μᵢ k(i,x₀) − S·Σⱼ k(x₀,j) μⱼ + S²·k(x₀,x₀)`
  set S := ∑ i ∈ μ.support, μ i with hS
  refine (h.2 (μ - Finsupp.single x0 S)).trans_eq ?_
  have inner : ∀ (i : X) (a : ℝ), ((μ - Finsupp.single x0 S).sum fun j b => star a * k i j * b) =
      (μ.sum fun j b => a * k i j * b) - a * k i x0 * S := fun i a => by
    rw [Finsupp.sum_sub_index (fun _ _ _ => mul_sub _ _ _), Finsupp.sum_single_index (mul_zero _), star_trivial]
  simp only [inner]
  rw [Finsupp.sum_sub_index fun i a b => by simp only [sub_mul, Finsupp.sum_sub]; abel,
    Finsupp.sum_single_index (by simp only [zero_mul, sub_self, Finsupp.sum, sum_const_zero])]
  simp only [Finsupp.sum, of_apply, star_trivial, mul_sub, sub_mul, mul_add, add_mul, sum_sub_distrib,
    sum_add_distrib, mul_assoc, ← mul_sum, ← sum_mul, ← hS]
  ring

/-- Conditionally negative definite, in the form in which it is used: `ψ` is symmetric and, recentred at any base
point, `ψ(x,x₀) + ψ(x₀,y) − ψ(x,y) − ψ(x₀,x₀)` is positive semi-definite.  (The textbook form, `Σ wᵢwⱼψ(xᵢ,xⱼ) ≤ 0` on
weights of sum 0, is equivalent for symmetric `ψ`; that equivalence is not needed and not proved here.) -/
structure IsCND (ψ : X → X → ℝ) : Prop where
  symm : ∀ x y, ψ x y = ψ y x
  centred : ∀ x0, (of fun x y => ψ x x0 + ψ x0 y - ψ x y - ψ x0 x0).PosSemidef

theorem IsCND.add {ψ₁ ψ₂ : X → X → ℝ} (h₁ : IsCND ψ₁) (h₂ : IsCND ψ₂) : IsCND fun x y => ψ₁ x y + ψ₂ x y :=
  ⟨fun x y => by rw [h₁.symm x y, h₂.symm x y], fun x0 => by
    convert (h₁.centred x0).add (h₂.centred x0) using 1
    ext x y; simp only [of_apply, Matrix.add_apply]; ring⟩

theorem IsCND.smul {ψ : X → X → ℝ} (h : IsCND ψ) {c : ℝ} (hc : 0 ≤ c) : IsCND fun x y => c * ψ x y :=
  ⟨fun x y => by rw [h.symm x y], fun x0 => by
    convert (h.centred x0).smul_real hc using 1
    ext x y; simp only [of_apply, Matrix.smul_apply, smul_eq_mul]; ring⟩

theorem isCND_zero : IsCND fun (_ _ : X) => (0 : ℝ) :=
  ⟨fun _ _ => rfl, fun _ => by simpa using posSemidef_const (X := X) le_rfl⟩

theorem IsCND.comap {Y : Type*} {ψ : X → X → ℝ} (h : IsCND ψ) (f : Y → X) : IsCND fun x y => ψ (f x) (f y) :=
  ⟨fun _ _ => h.symm _ _, fun y0 => (h.centred (f y0)).submatrix f⟩

theorem IsCND.sum {ι : Type*} (s : Finset ι) {ψ : ι → X → X → ℝ} (h : ∀ k ∈ s, IsCND (ψ k)) :
    IsCND fun x y => ∑ k ∈ s, ψ k x y := by
  classical
  induction s using Finset.induction_on with
  | empty => simpa using isCND_zero (X := X)
  | insert a s ha ih =>
    simp only [sum_insert ha]
    exact (h a (mem_insert_self a s)).add (ih fun k hk => h k (mem_insert_of_mem hk))

/-- **Schoenberg, the direction used here**: if `ψ` is conditionally negative definite then `exp (−ψ)` is positive
semi-definite: `e^{−ψ(x,y)} = e^{ψ(x₀,x₀)} · f x · f y · e^{φ(x,y)}` with `f x = e^{−ψ(x,x₀)}` and `φ` the recentred `ψ`. -/
theorem IsCND.exp_neg [Nonempty X] {ψ : X → X → ℝ} (h : IsCND ψ) : (of fun x y => Real.exp (-ψ x y)).PosSemidef := by
  obtain ⟨x0⟩ := ‹Nonempty X›
  have e : (of fun x y => Real.exp (-ψ x y)) = Real.exp (ψ x0 x0) •
      ((of fun x y => Real.exp (-ψ x x0) * Real.exp (-ψ y x0)) ⊙
        of fun x y => Real.exp (ψ x x0 + ψ x0 y - ψ x y - ψ x0 x0)) := by
    ext x y
    simp only [of_apply, Matrix.smul_apply, hadamard_apply, smul_eq_mul, ← Real.exp_add, h.symm x0 y]
    congr 1; ring
  rw [e]
  exact ((posSemidef_rankOne _).hadamard (h.centred x0).hadamard_exp).smul_real (Real.exp_pos _).le

theorem IsCND.one_sub_exp_neg {ψ : X → X → ℝ} (h : IsCND ψ) : IsCND fun x y => 1 - Real.exp (-ψ x y) :=
  ⟨fun x y => by rw [h.symm x y], fun x0 => by
    have : Nonempty X := ⟨x0⟩
    convert h.exp_neg.recentre x0 using 1
    ext x y; simp only [of_apply]; ring⟩

/-- The squared distance on the line is conditionally negative definite: recentred at `x₀` it is `2 (s − x₀)(t − x₀)`. -/
theorem isCND_sq_sub : IsCND fun s t : ℝ => (s - t) ^ 2 :=
  ⟨fun s t => by ring, fun x0 => by
    convert (posSemidef_rankOne fun s : ℝ => s - x0).smul_real zero_le_two using 1
    ext s t; simp only [of_apply, Matrix.smul_apply, smul_eq_mul]; ring⟩

end Xrfmv.Psd
