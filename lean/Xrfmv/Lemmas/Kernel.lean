/-
`Xrfmv.Kernel` at `ℝ`: signs, symmetry and values at coinciding points of the distances and profiles, their behaviour
under scaling of the points (for C19), the passage to `Fin d → ℝ` vectors and Mathlib's `dotProduct` / `vecMul`, and
the Laplace family as `lap q L ∘ dist` (`entry_eq_lap_dist`).
-/
import Xrfmv.Model.Kernel
import Xrfmv.Lemmas.RealInst
import Xrfmv.Lemmas.ListOfFn
import Mathlib.LinearAlgebra.Matrix.Symmetric

namespace Xrfmv.Kernel
open Xrfmv

@[simp] theorem rpow_real (x y : ℝ) : rpow x y = x ^ y := rfl
@[simp] theorem exp_real (x : ℝ) : exp x = Real.exp x := rfl
@[simp] theorem abs_real (x : ℝ) : HasAbs.abs x = |x| := rfl
@[simp] theorem sqrt_real (x : ℝ) : sqrt x = Real.sqrt x := rfl

theorem sumL_eq_sum (l : List ℝ) : sumL l = l.sum := rfl

theorem count_eq_length (l : List ℝ) : count l = (l.length : ℝ) := by
  rw [count, sumL_eq_sum, List.map_const', List.sum_replicate, nsmul_eq_mul, mul_one]

theorem absDiffs_comm (u v : List ℝ) : absDiffs u v = absDiffs v u :=
  List.zipWith_comm_of_comm fun a b => abs_sub_comm a b

theorem absDiffs_self (u : List ℝ) : absDiffs u u = u.map fun _ => 0 := by
  rw [absDiffs, List.zipWith_self]; simp

theorem absDiffs_nonneg {u v : List ℝ} : ∀ t ∈ absDiffs u v, 0 ≤ t := by
  intro t ht
  simp only [absDiffs, List.mem_iff_getElem, List.getElem_zipWith] at ht
  obtain ⟨i, hi, rfl⟩ := ht
  exact abs_nonneg _

theorem absDiffs_ne_nil {u v : List ℝ} (hu : u ≠ []) (hv : v ≠ []) : absDiffs u v ≠ [] :=
  fun h => (List.zipWith_eq_nil_iff.1 h).elim hu hv

theorem powSum_comm (p : ℝ) (u v : List ℝ) : powSum p u v = powSum p v u := by
  simp only [powSum, absDiffs_comm u v]

theorem powSum_nonneg (p : ℝ) (u v : List ℝ) : 0 ≤ powSum p u v :=
  List.sum_nonneg fun a ha => by
    obtain ⟨t, ht, rfl⟩ := List.mem_map.1 ha
    exact Real.rpow_nonneg (absDiffs_nonneg t ht) p

theorem powSum_self {p : ℝ} (hp : 0 < p) (u : List ℝ) : powSum p u u = 0 := by
  rw [powSum, absDiffs_self, List.map_map]
  exact List.sum_eq_zero fun a ha => by
    obtain ⟨_, _, rfl⟩ := List.mem_map.1 ha
    exact Real.zero_rpow hp.ne'

theorem pdist_comm (p : ℝ) (u v : List ℝ) : pdist p u v = pdist p v u := by
  simp only [pdist, powSum_comm p u v]

theorem pdist_nonneg (p : ℝ) (u v : List ℝ) : 0 ≤ pdist p u v :=
  Real.rpow_nonneg (powSum_nonneg p u v) _

theorem pdist_self {p : ℝ} (hp : 0 < p) (u : List ℝ) : pdist p u u = 0 := by
  simp only [pdist, powSum_self hp, rpow_real]
  exact Real.zero_rpow (one_div_pos.mpr hp).ne'

theorem pdist_two (u v : List ℝ) : pdist 2 u v = Real.sqrt (powSum 2 u v) := by
  rw [Real.sqrt_eq_rpow]; rfl

theorem pdist_rpow {p : ℝ} (hp : 0 < p) (u v : List ℝ) : (pdist p u v) ^ p = powSum p u v := by
  simp only [pdist, rpow_real]
  rw [← Real.rpow_mul (powSum_nonneg p u v), one_div, inv_mul_cancel₀ hp.ne', Real.rpow_one]

theorem lap_pos (q L d : ℝ) : 0 < lap q L d := Real.exp_pos _

theorem lap_le_one {q L d : ℝ} (hL : 0 < L) (hd : 0 ≤ d) : lap q L d ≤ 1 := by
  simp only [lap, exp_real, rpow_real]
  rw [Real.exp_le_one_iff, neg_div]
  exact neg_nonpos.mpr (div_nonneg (Real.rpow_nonneg hd q) (Real.rpow_nonneg hL.le q))

theorem lap_zero {q : ℝ} (hq : 0 < q) (L : ℝ) : lap q L 0 = 1 := by
  simp [lap, Real.zero_rpow hq.ne']

theorem lap_scale {c : ℝ} (hc : 0 < c) (q : ℝ) {L d : ℝ} (hL : 0 ≤ L) (hd : 0 ≤ d) :
    lap q (c * L) (c * d) = lap q L d := by
  simp only [lap, exp_real, rpow_real]
  rw [Real.mul_rpow hc.le hd, Real.mul_rpow hc.le hL, neg_div, neg_div,
    mul_div_mul_left _ _ (Real.rpow_pos_of_pos hc q).ne']

theorem productCore_eq_lpq {q : ℝ} (hq : 0 < q) (L : ℝ) (u v : List ℝ) :
    productCore q L u v = lpqCore q q L u v := by
  simp only [productCore, lpqCore, lap, exp_real, rpow_real]
  rw [pdist_rpow hq]

theorem mean_mem_Ioc {l : List ℝ} (hne : l ≠ []) (h : ∀ a ∈ l, a ∈ Set.Ioc (0 : ℝ) 1) :
    sumL l / count l ∈ Set.Ioc (0 : ℝ) 1 := by
  have hlen : (0 : ℝ) < l.length := Nat.cast_pos.2 (List.length_pos_iff.2 hne)
  rw [sumL_eq_sum, count_eq_length, Set.mem_Ioc, div_le_one hlen]
  exact ⟨div_pos (List.sum_pos _ (fun a ha => (h a ha).1) hne) hlen,
    (List.sum_le_card_nsmul l 1 fun a ha => (h a ha).2).trans_eq (by rw [nsmul_eq_mul, mul_one])⟩

theorem mix_mem_Ioc {c m : ℝ} (hc0 : 0 ≤ c) (hc1 : c < 1) (hm : m ∈ Set.Ioc (0 : ℝ) 1) :
    (1 - c) * m + c ∈ Set.Ioc (0 : ℝ) 1 :=
  have h : 0 < 1 - c := sub_pos.2 hc1
  ⟨add_pos_of_pos_of_nonneg (mul_pos h hm.1) hc0, le_sub_iff_add_le.1 (mul_le_of_le_one_right h.le hm.2)⟩

theorem sumPowerCore_mem_Ioc {q L c P : ℝ} (hL : 0 < L) (hc0 : 0 ≤ c) (hc1 : c < 1) (hP : 1 ≤ P)
    {u v : List ℝ} (hne : absDiffs u v ≠ []) : sumPowerCore q L c P u v ∈ Set.Ioc (0 : ℝ) 1 := by
  obtain ⟨h0, h1⟩ := mix_mem_Ioc hc0 hc1 <| mean_mem_Ioc (mt List.map_eq_nil_iff.1 hne) fun a ha => by
    obtain ⟨t, ht, rfl⟩ := List.mem_map.1 ha
    exact ⟨lap_pos q L t, lap_le_one hL (absDiffs_nonneg t ht)⟩
  exact ⟨Real.rpow_pos_of_pos h0 P, Real.rpow_le_one h0.le h1 (zero_le_one.trans hP)⟩

theorem sumPowerCore_self {q : ℝ} (hq : 0 < q) (L c P : ℝ) {u : List ℝ} (hne : u ≠ []) :
    sumPowerCore q L c P u u = 1 := by
  have he : ((absDiffs u u).map fun t => exp (-(rpow t q) / rpow L q)) = u.map fun _ => (1 : ℝ) := by
    rw [absDiffs_self, List.map_map]
    exact List.map_congr_left fun _ _ => lap_zero hq L
  have hlen : (u.length : ℝ) ≠ 0 := Nat.cast_ne_zero.2 (mt List.length_eq_zero_iff.1 hne)
  rw [sumPowerCore, he]
  -- the sum of the ones is `count u` by definition
  show rpow ((1 - c) * (count u / count (u.map fun _ => (1 : ℝ))) + c) P = 1
  rw [count_eq_length, count_eq_length, List.length_map, div_self hlen, mul_one, sub_add_cancel]
  exact Real.one_rpow P

theorem lightSq_self (M : Transform ℝ) (x : List ℝ) : lightSq M x x = 0 := by
  rw [lightSq, two_mul, sub_add_cancel_left, neg_add_cancel]

theorem lightSq_comm {M : Transform ℝ} {x z : List ℝ} (hM : dot (applyT M x) z = dot (applyT M z) x) :
    lightSq M x z = lightSq M z x := by
  rw [lightSq, lightSq, hM]; ring

theorem zipWith_mul_smul (c : ℝ) (x v : List ℝ) :
    List.zipWith (· * ·) (x.map (c * ·)) v = (List.zipWith (· * ·) x v).map (c * ·) := by
  rw [List.zipWith_map_left, List.map_zipWith]; simp only [mul_assoc]

theorem sumL_smul (c : ℝ) (l : List ℝ) : sumL (l.map (c * ·)) = c * sumL l := by
  rw [sumL_eq_sum, sumL_eq_sum, List.sum_map_mul_left]; simp

theorem dot_smul_left (c : ℝ) (x y : List ℝ) : dot (x.map (c * ·)) y = c * dot x y := by
  simp only [dot, zipWith_mul_smul, sumL_smul]

theorem dot_comm (x y : List ℝ) : dot x y = dot y x :=
  congrArg sumL (List.zipWith_comm_of_comm fun a b => mul_comm a b)

theorem dot_smul_right (c : ℝ) (x y : List ℝ) : dot x (y.map (c * ·)) = c * dot x y := by
  rw [dot_comm, dot_smul_left, dot_comm]

theorem applyT_smul (c : ℝ) (T : Transform ℝ) (x : List ℝ) :
    applyT T (x.map (c * ·)) = (applyT T x).map (c * ·) := by
  cases T with
  | none => rfl
  | diag v => simp only [applyT, zipWith_mul_smul]
  | full cols =>
    simp only [applyT, List.map_map, Function.comp_def]
    exact List.map_congr_left fun col _ => dot_smul_left c x col

/-- number of features after the transform, for inputs of dimension `d` -/
def tlen : Transform ℝ → ℕ → ℕ
  | .none, d => d
  | .diag v, d => min d v.length
  | .full cols, _ => cols.length

theorem applyT_length (T : Transform ℝ) (x : List ℝ) : (applyT T x).length = tlen T x.length := by
  cases T <;> simp only [applyT, tlen, List.length_zipWith, List.length_map]

theorem absDiffs_smul {c : ℝ} (hc : 0 < c) (u v : List ℝ) :
    absDiffs (u.map (c * ·)) (v.map (c * ·)) = (absDiffs u v).map (c * ·) := by
  rw [absDiffs, List.zipWith_map, absDiffs, List.map_zipWith]
  simp only [abs_real, ← mul_sub, abs_mul, abs_of_pos hc]

theorem powSum_smul {c : ℝ} (hc : 0 < c) (p : ℝ) (u v : List ℝ) :
    powSum p (u.map (c * ·)) (v.map (c * ·)) = c ^ p * powSum p u v := by
  simp only [powSum, absDiffs_smul hc, List.map_map, ← sumL_smul]
  exact congrArg sumL (List.map_congr_left fun t ht => Real.mul_rpow hc.le (absDiffs_nonneg t ht))

theorem pdist_smul {c : ℝ} (hc : 0 < c) {p : ℝ} (hp : 0 < p) (u v : List ℝ) :
    pdist p (u.map (c * ·)) (v.map (c * ·)) = c * pdist p u v := by
  simp only [pdist, powSum_smul hc, rpow_real]
  rw [Real.mul_rpow (Real.rpow_nonneg hc.le p) (powSum_nonneg p u v), ← Real.rpow_mul hc.le,
    one_div, mul_inv_cancel₀ hp.ne', Real.rpow_one]

theorem lightSq_smul (c : ℝ) (M : Transform ℝ) (x z : List ℝ) :
    lightSq M (x.map (c * ·)) (z.map (c * ·)) = c ^ 2 * lightSq M x z := by
  simp only [lightSq, applyT_smul, dot_smul_left, dot_smul_right]
  ring

theorem sumL_ofFn {d : ℕ} (a : Fin d → ℝ) : sumL (List.ofFn a) = ∑ i, a i := by
  rw [sumL_eq_sum, List.sum_ofFn]

theorem dot_ofFn {d : ℕ} (a b : Fin d → ℝ) : dot (List.ofFn a) (List.ofFn b) = a ⬝ᵥ b := by
  simp only [dot, zipWith_ofFn, sumL_ofFn, dotProduct]

/-- the columns of a matrix, as `Kernel.Transform.full` wants them (`Grad.Transform.full` holds the rows: `AgopStep.toGradT`
transposes) -/
def colsOf {d e : ℕ} (A : Matrix (Fin d) (Fin e) ℝ) : List (List ℝ) :=
  List.ofFn fun j => List.ofFn fun i => A i j

theorem applyT_full_ofFn {d e : ℕ} (A : Matrix (Fin d) (Fin e) ℝ) (x : Fin d → ℝ) :
    applyT (.full (colsOf A)) (List.ofFn x) = List.ofFn (Matrix.vecMul x A) := by
  simp only [applyT, colsOf, List.map_ofFn, Function.comp_def, dot_ofFn]
  rfl

theorem applyT_diag_ofFn {d : ℕ} (v x : Fin d → ℝ) :
    applyT (.diag (List.ofFn v)) (List.ofFn x) = List.ofFn fun i => x i * v i := by
  simp only [applyT, zipWith_ofFn]

theorem powSum_ofFn (p : ℝ) {d : ℕ} (a b : Fin d → ℝ) :
    powSum p (List.ofFn a) (List.ofFn b) = ∑ i, |a i - b i| ^ p := by
  simp only [powSum, absDiffs, zipWith_ofFn, List.map_ofFn, Function.comp_def, sumL_ofFn, abs_real, rpow_real]

theorem powSum_two_ofFn {d : ℕ} (a b : Fin d → ℝ) :
    powSum 2 (List.ofFn a) (List.ofFn b) = ∑ i, (a i - b i) ^ 2 := by
  simp only [powSum_ofFn, Real.rpow_two, sq_abs]

theorem sum_sq_sub {d : ℕ} (a b : Fin d → ℝ) :
    a ⬝ᵥ a - 2 * (a ⬝ᵥ b) + b ⬝ᵥ b = ∑ i, (a i - b i) ^ 2 := by
  simp only [dotProduct, Finset.mul_sum, ← Finset.sum_sub_distrib, ← Finset.sum_add_distrib]
  apply Finset.sum_congr rfl
  intro i _
  ring

theorem vecMul_sq_dot {d : ℕ} (T : Matrix (Fin d) (Fin d) ℝ) (hT : T.IsSymm) (x z : Fin d → ℝ) :
    Matrix.vecMul x (T * T) ⬝ᵥ z = Matrix.vecMul x T ⬝ᵥ Matrix.vecMul z T := by
  rw [← Matrix.vecMul_vecMul, ← Matrix.dotProduct_mulVec]
  congr 1
  rw [← Matrix.vecMul_transpose, hT.eq]

/-- If `M` acts as `T·Tᵀ` (`⟨aM, b⟩ = ⟨aT, bT⟩` for all points), the expansion `xᵀMx − 2xᵀMz + zᵀMz` the light kernel
computes is `‖xT − zT‖₂²`. -/
theorem lightSq_eq_powSum {M T : Transform ℝ} {d e : ℕ} {f : (Fin d → ℝ) → Fin e → ℝ}
    (hT : ∀ a, applyT T (List.ofFn a) = List.ofFn (f a))
    (hM : ∀ a b, dot (applyT M (List.ofFn a)) (List.ofFn b) = f a ⬝ᵥ f b) (x z : Fin d → ℝ) :
    lightSq M (List.ofFn x) (List.ofFn z) = powSum 2 (applyT T (List.ofFn x)) (applyT T (List.ofFn z)) := by
  rw [lightSq, hM, hM, hM, hT, hT, powSum_two_ofFn, sum_sq_sub]

theorem lightEntry_eq (q L : ℝ) (M : Transform ℝ) (x z : List ℝ) :
    lightEntry q L M x z = exp (-(rpow (max (lightSq M x z) 0) (q / 2)) / rpow L q) := rfl

/-- The light kernel is the Laplace profile of its distance. -/
theorem lightEntry_eq_lap (q L : ℝ) (M : Transform ℝ) (x z : List ℝ) :
    lightEntry q L M x z = lap q L (sqrt (max (lightSq M x z) 0)) := by
  simp only [lightEntry_eq, lap, rpow_real, sqrt_real, Real.rpow_div_two_eq_sqrt q (le_max_right _ _)]

theorem dist_nonneg (K : Spec ℝ) (T : Transform ℝ) (x z : List ℝ) : 0 ≤ dist K T x z := by
  cases K with
  | light q L => exact Real.sqrt_nonneg _
  | sumPower q L c P => exact le_rfl
  | _ => exact pdist_nonneg _ _ _

/-- Every kernel but the sum-power one is the Laplace profile of its own distance (`q > 0` matters for the
product kernel only, which the code computes from `cdist(p=q)^q`). -/
theorem entry_eq_lap_dist (K : Spec ℝ) (hs : K.isSumPower = false) (hq : ∀ q L, K = .product q L → 0 < q)
    (T : Transform ℝ) (x z : List ℝ) : entry K T x z = lap K.q K.L (dist K T x z) := by
  cases K with
  | light q L => exact lightEntry_eq_lap q L T x z
  | product q L => exact productCore_eq_lpq (hq q L rfl) L _ _
  | sumPower q L c P => cases hs
  | _ => rfl

end Xrfmv.Kernel
