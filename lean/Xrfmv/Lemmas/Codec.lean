/-
Lemmas about the label codec model `Xrfmv.Codec` at `ℝ`.  The model's law-free `vsum`, `ofNat'`, `mulVec` get their
equation in `Finset.sum` / `Matrix` terms once (`vsum_eq_sum`, `ofNat'_eq`, `mulVec_eq`, the `…_apply` lemmas); the
regenerated `Gen.Codec.clampLo` / `clampHi` are read in `clampVec_apply` only, `binaryFirst` / `binarySecond` in
`expandBinary_encodeBinary` only.  Prevalence decoder: one computation, `A · [Q | prior] = I` under the contract of
the QR oracle and `Σ prior = 1` (`augA_mul_explicitInv`).  Validity: one fact, `isProb_div_sum` (clamp-normalise, the
empirical prior); mixtures of probability rows are probability rows, and the mean over trees is the uniform mixture.
-/
import Xrfmv.Model.Codec
import Mathlib.Algebra.BigOperators.Fin
import Mathlib.Algebra.BigOperators.Field
import Mathlib.Data.Real.Basic
import Mathlib.Data.Matrix.Mul
import Mathlib.Tactic.FinCases
import Mathlib.Tactic.Linarith

open Finset BigOperators
namespace Xrfmv.Codec

section spec

/-- A probability row: non-negative entries that sum to one. -/
def IsProb {K : ℕ} (p : Vec ℝ K) : Prop := (∀ k, 0 ≤ p k) ∧ ∑ k, p k = 1

/-- Routing weights of a soft tree lie on the simplex (C09 `weights_simplex`); nothing is asked of a
hard-routed tree. -/
def TreeAt.Valid {m : ℕ} : TreeAt ℝ m → Prop
  | .hard _ => True
  | .soft _ w _ => (∀ l, 0 ≤ w l) ∧ ∑ l, w l = 1

end spec

theorem vsum_eq_sum : ∀ (n : ℕ) (f : Fin n → ℝ), vsum n f = ∑ i, f i
  | 0, _ => (Fin.sum_univ_zero _).symm
  | n + 1, f => by rw [vsum, vsum_eq_sum n, Fin.sum_univ_castSucc]

theorem ofNat'_eq : ∀ k : ℕ, (ofNat' k : ℝ) = k
  | 0 => Nat.cast_zero.symm
  | k + 1 => by rw [ofNat', ofNat'_eq k, Nat.cast_succ]

theorem mulVec_eq {m n : ℕ} (M : Mat ℝ m n) (v : Vec ℝ n) : mulVec M v = Matrix.mulVec (Matrix.of M) v := by
  funext i; exact vsum_eq_sum _ _

theorem codes_apply {n : ℕ} (prior : Vec ℝ (n + 1)) (Q : Mat ℝ (n + 1) n) (k : Fin (n + 1)) (j : Fin n) :
    codes prior Q k j = Q k j - ∑ i, prior i * Q i j := by
  rw [codes, mu, vsum_eq_sum]

theorem decodeExplicit_apply {n : ℕ} (prior : Vec ℝ (n + 1)) (Q : Mat ℝ (n + 1) n) (v : Vec ℝ n) (k : Fin (n + 1)) :
    decodeExplicit prior Q v k = prior k + ∑ j, Q k j * v j := by
  rw [decodeExplicit, vsum_eq_sum]

theorem mixture_apply {L K : ℕ} (w : Vec ℝ L) (rows : Fin L → Vec ℝ K) (k : Fin K) :
    mixture w rows k = ∑ l, w l * rows l k := vsum_eq_sum _ _

theorem clampNorm_apply {K : ℕ} (ε : ℝ) (p : Vec ℝ K) (i : Fin K) :
    clampNorm ε p i = clampVec ε p i / ∑ j, clampVec ε p j := by
  rw [clampNorm, vsum_eq_sum]

theorem priorOf_apply {K : ℕ} (counts : Vec ℕ K) (k : Fin K) :
    (priorOf counts : Vec ℝ K) k = counts k / ∑ i, (counts i : ℝ) := by
  simp only [priorOf, vsum_eq_sum, ofNat'_eq]

@[simp] theorem aug_castSucc {n : ℕ} (v : Vec ℝ n) (j : Fin n) : aug v j.castSucc = v j := by
  simp [aug]

@[simp] theorem aug_last {n : ℕ} (v : Vec ℝ n) : aug v (Fin.last n) = 1 := by
  simp [aug]

theorem augA_eq_aug {n : ℕ} (prior : Vec ℝ (n + 1)) (Q : Mat ℝ (n + 1) n) (r k : Fin (n + 1)) :
    augA prior Q r k = aug (codes prior Q k) r := rfl

@[simp] theorem augA_castSucc {n : ℕ} (prior : Vec ℝ (n + 1)) (Q : Mat ℝ (n + 1) n) (j : Fin n) (k : Fin (n + 1)) :
    augA prior Q j.castSucc k = codes prior Q k j := by
  rw [augA_eq_aug, aug_castSucc]

@[simp] theorem augA_last {n : ℕ} (prior : Vec ℝ (n + 1)) (Q : Mat ℝ (n + 1) n) (k : Fin (n + 1)) :
    augA prior Q (Fin.last n) k = 1 := by
  rw [augA_eq_aug, aug_last]

@[simp] theorem explicitInv_castSucc {n : ℕ} (prior : Vec ℝ (n + 1)) (Q : Mat ℝ (n + 1) n) (k : Fin (n + 1)) (j : Fin n) :
    explicitInv prior Q k j.castSucc = Q k j := by
  simp [explicitInv]

@[simp] theorem explicitInv_last {n : ℕ} (prior : Vec ℝ (n + 1)) (Q : Mat ℝ (n + 1) n) (k : Fin (n + 1)) :
    explicitInv prior Q k (Fin.last n) = prior k := by
  simp [explicitInv]

/-- The contract of the QR oracle in `Finset.sum` form (`QContract` itself is stated in the model's law-free `vsum`,
`delta`, `ofNat'`, which run at `Float` too); `toQC` / `toQContract` pass between the two. -/
structure QC {n : ℕ} (Q : Mat ℝ (n + 1) n) : Prop where
  orth : ∀ a b : Fin n, ∑ k, Q k a * Q k b = if a = b then 1 else 0
  proj : ∀ k l : Fin (n + 1), ∑ j, Q k j * Q l j = (if k = l then 1 else 0) - 1 / ((n : ℝ) + 1)

theorem QContract.toQC {n : ℕ} {Q : Mat ℝ (n + 1) n} (h : QContract Q) : QC Q :=
  ⟨fun a b => (vsum_eq_sum _ _).symm.trans (h.orth a b),
   fun k l => (vsum_eq_sum _ _).symm.trans ((h.proj k l).trans (by rw [ofNat'_eq, Nat.cast_succ]; rfl))⟩

theorem QC.toQContract {n : ℕ} {Q : Mat ℝ (n + 1) n} (h : QC Q) : QContract Q :=
  ⟨fun a b => (vsum_eq_sum _ _).trans (h.orth a b),
   fun k l => (vsum_eq_sum _ _).trans ((h.proj k l).trans (by rw [ofNat'_eq, Nat.cast_succ]; rfl))⟩

/-- `Qᵀ1 = 0`: by `proj`, the squares of the column sums add up to `Σ_{k l} (δ_{kl} − 1/K) = 0`. -/
theorem QC.colsum {n : ℕ} {Q : Mat ℝ (n + 1) n} (h : QC Q) (a : Fin n) : ∑ k, Q k a = 0 := by
  have hsq : ∑ j, (∑ k, Q k j) * (∑ l, Q l j) = 0 := by
    simp only [Finset.sum_mul_sum]
    -- `∑ j ∑ k ∑ l` to `∑ k ∑ j ∑ l` by the `rw`, then to `∑ k ∑ l ∑ j` by `sum_comm` with the outer index in `Fin n`
    -- (so that it cannot swap back)
    rw [Finset.sum_comm]
    simp only [Finset.sum_comm (γ := Fin n), h.proj, Finset.sum_sub_distrib, Finset.sum_ite_eq, Finset.mem_univ,
      if_true, Finset.sum_const, Finset.card_univ, Fintype.card_fin, nsmul_eq_mul]
    rw [Nat.cast_succ, mul_one_div_cancel (Nat.cast_add_one_ne_zero n), sub_self]
  exact mul_self_eq_zero.mp
    ((Finset.sum_eq_zero_iff_of_nonneg fun j _ => mul_self_nonneg _).mp hsq a (Finset.mem_univ a))

/-- `A · [Q | prior] = I`, block by block: `Σ prior = 1`, `1ᵀQ = 0`, `Cᵀ prior = μ − μ·Σ prior = 0`,
`CᵀQ = QᵀQ − μ(1ᵀQ) = I`. -/
theorem augA_mul_explicitInv {n : ℕ} {Q : Mat ℝ (n + 1) n} (h : QC Q) (prior : Vec ℝ (n + 1))
    (hp : ∑ k, prior k = 1) :
    Matrix.of (augA prior Q) * Matrix.of (explicitInv prior Q) = 1 := by
  ext r c
  rw [Matrix.mul_apply]
  simp only [Matrix.of_apply]
  refine Fin.lastCases ?_ (fun j => ?_) r <;> refine Fin.lastCases ?_ (fun j' => ?_) c
  · simp [hp]
  · simp [h.colsum, (Fin.castSucc_lt_last j').ne']
  · simp [codes_apply, sub_mul, Finset.sum_sub_distrib, ← Finset.mul_sum, hp, mul_comm (Q _ _) (prior _),
      (Fin.castSucc_lt_last j).ne]
  · simp [codes_apply, sub_mul, Finset.sum_sub_distrib, ← Finset.mul_sum, h.orth, h.colsum, Matrix.one_apply]

theorem decodeInv_explicitInv {n : ℕ} (prior : Vec ℝ (n + 1)) (Q : Mat ℝ (n + 1) n) (v : Vec ℝ n) :
    decodeInv (explicitInv prior Q) v = decodeExplicit prior Q v := by
  funext k
  rw [decodeInv, mulVec, vsum_eq_sum, Fin.sum_univ_castSucc, decodeExplicit_apply, add_comm]
  simp only [explicitInv_castSucc, explicitInv_last, aug_castSucc, aug_last, mul_one]

/-- The decoded vector sums to one before clamping: `1ᵀ(prior + Q v) = Σ prior + (1ᵀQ) v`. -/
theorem sum_decodeExplicit {n : ℕ} {Q : Mat ℝ (n + 1) n} (h : QC Q) (prior : Vec ℝ (n + 1))
    (hp : ∑ k, prior k = 1) (v : Vec ℝ n) : ∑ k, decodeExplicit prior Q v k = 1 := by
  simp only [decodeExplicit_apply, Finset.sum_add_distrib, hp]
  rw [Finset.sum_comm]
  simp only [← Finset.sum_mul, h.colsum, zero_mul, Finset.sum_const_zero, add_zero]

theorem decodeExplicit_zero {n : ℕ} (prior : Vec ℝ (n + 1)) (Q : Mat ℝ (n + 1) n) :
    decodeExplicit prior Q (fun _ => 0) = prior := by
  funext k
  simp only [decodeExplicit_apply, mul_zero, Finset.sum_const_zero, add_zero]

theorem decodeExplicit_mixture {n m : ℕ} (prior : Vec ℝ (n + 1)) (Q : Mat ℝ (n + 1) n)
    (w : Vec ℝ m) (hw : ∑ i, w i = 1) (vs : Fin m → Vec ℝ n) :
    decodeExplicit prior Q (mixture w vs) = mixture w (fun i => decodeExplicit prior Q (vs i)) := by
  funext k
  simp only [decodeExplicit_apply, mixture_apply, mul_add, Finset.sum_add_distrib, ← Finset.sum_mul, hw, one_mul,
    Finset.mul_sum]
  rw [Finset.sum_comm]
  simp only [mul_left_comm]

theorem mixture_delta {m : ℕ} (w : Vec ℝ m) :
    mixture w (fun i k => if i = k then (1 : ℝ) else 0) = w := by
  funext k
  simp only [mixture_apply, mul_ite, mul_one, mul_zero, Finset.sum_ite_eq', Finset.mem_univ, if_true]

theorem IsProb.le_one {K : ℕ} {p : Vec ℝ K} (hp : IsProb p) (k : Fin K) : p k ≤ 1 :=
  hp.2 ▸ Finset.single_le_sum (f := p) (fun i _ => hp.1 i) (Finset.mem_univ k)

theorem isProb_div_sum {K : ℕ} {v : Vec ℝ K} (h0 : ∀ i, 0 ≤ v i) (hs : 0 < ∑ i, v i) :
    IsProb (fun i => v i / ∑ j, v j) :=
  ⟨fun i => div_nonneg (h0 i) hs.le, by rw [← Finset.sum_div, div_self hs.ne']⟩

theorem mixture_isProb {L K : ℕ} (w : Vec ℝ L) (hw0 : ∀ l, 0 ≤ w l) (hw1 : ∑ l, w l = 1)
    (rows : Fin L → Vec ℝ K) (hr : ∀ l, IsProb (rows l)) : IsProb (mixture w rows) := by
  refine ⟨fun k => ?_, ?_⟩
  · rw [mixture_apply]
    exact Finset.sum_nonneg fun l _ => mul_nonneg (hw0 l) ((hr l).1 k)
  · simp only [mixture_apply]
    rw [Finset.sum_comm]
    simp only [← Finset.mul_sum, (hr _).2, mul_one, hw1]

theorem mixture_const {L K : ℕ} (w : Vec ℝ L) (hw1 : ∑ l, w l = 1) (x : Vec ℝ K) :
    mixture w (fun _ => x) = x := by
  funext k
  rw [mixture_apply, ← Finset.sum_mul, hw1, one_mul]

theorem meanRows_eq_mixture {T K : ℕ} (rows : Fin T → Vec ℝ K) :
    meanRows rows = mixture (fun _ => 1 / (T : ℝ)) rows := by
  funext k
  rw [meanRows, vsum_eq_sum, ofNat'_eq, mixture_apply, ← Finset.mul_sum, one_div, inv_mul_eq_div]

theorem sum_uniform {T : ℕ} (hT : 0 < T) : ∑ _t : Fin T, 1 / (T : ℝ) = 1 := by
  rw [Finset.sum_const, Finset.card_univ, Fintype.card_fin, nsmul_eq_mul,
    mul_one_div_cancel (Nat.cast_ne_zero.mpr hT.ne')]

theorem meanRows_isProb {T K : ℕ} (hT : 0 < T) (rows : Fin T → Vec ℝ K) (hr : ∀ t, IsProb (rows t)) :
    IsProb (meanRows rows) :=
  meanRows_eq_mixture rows ▸ mixture_isProb _ (fun _ => by positivity) (sum_uniform hT) rows hr

theorem meanRows_const {T K : ℕ} (hT : 0 < T) (x : Vec ℝ K) : meanRows (fun _ : Fin T => x) = x :=
  (meanRows_eq_mixture _).trans (mixture_const _ (sum_uniform hT) x)

theorem clamp_ge (lo hi x : ℝ) : min lo hi ≤ clamp lo hi x :=
  le_min (le_trans (min_le_left _ _) (le_max_right _ _)) (min_le_right _ _)

theorem clamp_le (lo hi x : ℝ) : clamp lo hi x ≤ hi := min_le_right _ _

theorem clamp_of_mem {lo hi x : ℝ} (h1 : lo ≤ x) (h2 : x ≤ hi) : clamp lo hi x = x := by
  unfold clamp
  rw [max_eq_left h1, min_eq_left h2]

theorem clampVec_apply {K : ℕ} (ε : ℝ) (p : Vec ℝ K) (i : Fin K) : clampVec ε p i = clamp ε (1 - ε) (p i) := rfl

theorem clampVec_pos {K : ℕ} {ε : ℝ} (h0 : 0 < ε) (h1 : ε < 1) (p : Vec ℝ K) (i : Fin K) :
    0 < clampVec ε p i :=
  lt_of_lt_of_le (lt_min h0 (sub_pos.mpr h1)) (clampVec_apply ε p i ▸ clamp_ge _ _ _)

theorem sum_clampVec_pos {K : ℕ} (hK : 0 < K) {ε : ℝ} (h0 : 0 < ε) (h1 : ε < 1) (p : Vec ℝ K) :
    0 < ∑ i, clampVec ε p i := by
  have : Nonempty (Fin K) := ⟨⟨0, hK⟩⟩
  exact Finset.sum_pos (fun i _ => clampVec_pos h0 h1 p i) Finset.univ_nonempty

theorem clampNorm_isProb {K : ℕ} (hK : 0 < K) {ε : ℝ} (h0 : 0 < ε) (h1 : ε < 1) (p : Vec ℝ K) :
    IsProb (clampNorm ε p) :=
  funext (clampNorm_apply ε p) ▸
    isProb_div_sum (fun i => (clampVec_pos h0 h1 p i).le) (sum_clampVec_pos hK h0 h1 p)

theorem clampNorm_pos {K : ℕ} (hK : 0 < K) {ε : ℝ} (h0 : 0 < ε) (h1 : ε < 1) (p : Vec ℝ K) (k : Fin K) :
    0 < clampNorm ε p k :=
  clampNorm_apply ε p k ▸ div_pos (clampVec_pos h0 h1 p k) (sum_clampVec_pos hK h0 h1 p)

/-- On `[0, 1]`, `clamp` raises `x` by at most `ε` (up to `ε`) and lowers it by at most `ε` (down to `1 - ε`). -/
theorem clamp_near {ε x : ℝ} (h0 : 0 ≤ ε) (hx0 : 0 ≤ x) (hx1 : x ≤ 1) : |clamp ε (1 - ε) x - x| ≤ ε :=
  abs_sub_le_iff.mpr
    ⟨sub_le_iff_le_add'.mpr
      ((min_le_left _ _).trans (max_le (le_add_of_nonneg_right h0) (le_add_of_nonneg_left hx0))),
     sub_le_comm.mp (le_min (le_max_of_le_left (sub_le_self x h0)) (sub_le_sub_right hx1 ε))⟩

/-- Normalising a non-negative row `q` that is entrywise `ε`-close to a row `p` with `Σ p = 1` moves no entry of
`p` by more than `(K + 1) ε`: with `s = Σ q`, `|q_k/s − q_k| = (q_k/s)·|1 − s|`, `q_k/s ≤ 1`, `|1 − s| ≤ K ε`. -/
theorem div_sum_near {K : ℕ} {ε : ℝ} {p q : Vec ℝ K} (hp : ∑ j, p j = 1) (hq : ∀ j, 0 ≤ q j) (hs : 0 < ∑ j, q j)
    (hd : ∀ j, |q j - p j| ≤ ε) (k : Fin K) : |q k / ∑ j, q j - p k| ≤ ((K : ℝ) + 1) * ε := by
  have hs1 : |1 - ∑ j, q j| ≤ (K : ℝ) * ε := by
    rw [← hp, ← Finset.sum_sub_distrib]
    refine (Finset.abs_sum_le_sum_abs _ _).trans ((Finset.sum_le_card_nsmul _ _ ε fun j _ => ?_).trans_eq ?_)
    · rw [abs_sub_comm]; exact hd j
    · rw [Finset.card_univ, Fintype.card_fin, nsmul_eq_mul]
  have hq1 : |q k / ∑ j, q j| ≤ 1 := by
    rw [abs_of_nonneg (div_nonneg (hq k) hs.le)]
    exact (div_le_one hs).mpr (Finset.single_le_sum (fun i _ => hq i) (Finset.mem_univ k))
  have e : q k / ∑ j, q j - q k = q k / (∑ j, q j) * (1 - ∑ j, q j) := by
    rw [mul_one_sub, div_mul_cancel₀ _ hs.ne']
  rw [add_one_mul]
  refine (abs_sub_le _ (q k) _).trans (add_le_add ?_ (hd k))
  rw [e, abs_mul]
  exact (mul_le_mul hq1 hs1 (abs_nonneg _) zero_le_one).trans_eq (one_mul _)

theorem clampNorm_near {K : ℕ} (hK : 0 < K) {ε : ℝ} (h0 : 0 < ε) (h1 : ε < 1) (p : Vec ℝ K) (hp : IsProb p)
    (k : Fin K) : |clampNorm ε p k - p k| ≤ ((K : ℝ) + 1) * ε := by
  rw [clampNorm_apply]
  exact div_sum_near hp.2 (fun j => (clampVec_pos h0 h1 p j).le) (sum_clampVec_pos hK h0 h1 p)
    (fun j => clampVec_apply ε p j ▸ clamp_near h0.le (hp.1 j) (hp.le_one j)) k

/-- `torch.argmax`: a maximal entry, and every earlier entry is strictly smaller. -/
theorem argmax_spec : ∀ (n : ℕ) (f : Fin (n + 1) → ℝ),
    (∀ j, f j ≤ f (argmax n f)) ∧ ∀ j, j < argmax n f → f j < f (argmax n f)
  | 0, f => ⟨fun j => by rw [Fin.fin_one_eq_zero j]; exact le_rfl, fun j h => absurd h (Fin.not_lt_zero j)⟩
  | n + 1, f => by
    obtain ⟨ih1, ih2⟩ := argmax_spec n (fun i => f i.castSucc)
    simp only [argmax]
    split_ifs with hlt
    · exact ⟨Fin.forall_fin_succ'.mpr ⟨fun j => (lt_of_le_of_lt (ih1 j) hlt).le, le_rfl⟩,
        Fin.forall_fin_succ'.mpr ⟨fun j _ => lt_of_le_of_lt (ih1 j) hlt, fun h => absurd h (lt_irrefl _)⟩⟩
    · exact ⟨Fin.forall_fin_succ'.mpr ⟨ih1, not_lt.mp hlt⟩,
        Fin.forall_fin_succ'.mpr ⟨fun j h => ih2 j (Fin.castSucc_lt_castSucc_iff.mp h),
          fun h => absurd h (not_lt.mpr (Fin.le_last _))⟩⟩

theorem argmax_eq {n : ℕ} {f : Fin (n + 1) → ℝ} {i : Fin (n + 1)} (h1 : ∀ j, f j ≤ f i)
    (h2 : ∀ j, j < i → f j < f i) : argmax n f = i := by
  obtain ⟨g1, g2⟩ := argmax_spec n f
  rcases lt_trichotomy (argmax n f) i with h | h | h
  · exact absurd (h2 _ h) (not_lt.mpr (g1 i))
  · exact h
  · exact absurd (g2 _ h) (not_lt.mpr (h1 _))

theorem argmax_unique {n : ℕ} (f : Fin (n + 1) → ℝ) (i : Fin (n + 1)) (h : ∀ j, j ≠ i → f j < f i) :
    argmax n f = i :=
  argmax_eq (fun j => (eq_or_ne j i).elim (fun e => e ▸ le_rfl) fun hj => (h j hj).le) fun j hj => h j hj.ne

theorem argmax_comp_strictMono {g : ℝ → ℝ} (hg : StrictMono g) (n : ℕ) (f : Fin (n + 1) → ℝ) :
    argmax n (fun i => g (f i)) = argmax n f :=
  argmax_eq (fun j => hg.monotone ((argmax_spec n f).1 j)) fun j h => hg ((argmax_spec n f).2 j h)

theorem argmax_clampNorm {n : ℕ} {ε : ℝ} (h0 : 0 < ε) (h1 : ε < 1) (p : Vec ℝ (n + 1)) :
    argmax n (clampNorm ε p) = argmax n (clampVec ε p) := by
  have hs := sum_clampVec_pos (Nat.succ_pos n) h0 h1 p
  rw [funext (clampNorm_apply ε p)]
  exact argmax_comp_strictMono (fun a b hab => div_lt_div_of_pos_right hab hs) n (clampVec ε p)

theorem clampVec_delta {K : ℕ} {ε : ℝ} (h0 : 0 ≤ ε) (h : ε ≤ 1 - ε) (i k : Fin K) :
    clampVec ε (fun k => if i = k then (1 : ℝ) else 0) k = if i = k then 1 - ε else ε := by
  simp only [clampVec_apply, clamp]
  split_ifs
  · exact min_eq_right ((sub_le_self 1 h0).trans (le_max_left 1 ε))
  · rw [max_eq_right h0]; exact min_eq_left h

theorem argmax_clampNorm_delta {n : ℕ} {ε : ℝ} (h0 : 0 < ε) (h2 : ε < 1 / 2) (i : Fin (n + 1)) :
    argmax n (clampNorm ε (fun k => if i = k then (1 : ℝ) else 0)) = i := by
  have h : ε < 1 - ε := by linarith
  rw [argmax_clampNorm h0 (h.trans (sub_lt_self 1 h0))]
  refine argmax_unique _ i fun j hj => ?_
  rwa [clampVec_delta h0.le h.le, clampVec_delta h0.le h.le, if_pos rfl, if_neg (Ne.symm hj)]

theorem encodeOneHot_eq {K : ℕ} (l : Fin K) :
    (encodeOneHot K l : Vec ℝ K) = fun k => if l = k then 1 else 0 := rfl

theorem expandBinary_encodeBinary (l : Fin 2) :
    (expandBinary (encodeBinary l.val) : Vec ℝ 2) = fun k => if l = k then 1 else 0 := by
  funext k
  simp only [expandBinary, encodeBinary, ofNat'_eq, Fin.ext_iff]
  fin_cases l <;> fin_cases k <;> norm_num

/-- `numerical_to_labels(labels_to_numerical(l)) = l` in zero_one mode, for every number of classes (one class
included) and any clamp `0 < ε < 1/2`. -/
theorem roundtripZeroOne_eq {n : ℕ} (ε : ℝ) (h0 : 0 < ε) (h2 : ε < 1 / 2) (l : Fin (n + 1)) :
    roundtripZeroOne ε n l = l.val := by
  unfold roundtripZeroOne
  split_ifs with hK
  · have hn1 : n = 1 := by omega
    subst hn1
    simp only [labelBinary, probasBinary]
    rw [expandBinary_encodeBinary l]
    exact congrArg Fin.val (argmax_clampNorm_delta h0 h2 l)
  · exact congrArg Fin.val (argmax_clampNorm_delta h0 h2 l)

theorem leafOut_zero {N m : ℕ} (kv : Vec ℝ N) (W : Mat ℝ N m) (h : ∀ c, kv c = 0) :
    leafOut kv W = fun _ => 0 := by
  funext j
  rw [leafOut, vsum_eq_sum]
  exact Finset.sum_eq_zero fun c _ => by rw [h, zero_mul]

theorem TreeAt.proba_isProb {m K : ℕ} (P : Vec ℝ m → Vec ℝ K) (hP : ∀ v, IsProb (P v))
    (t : TreeAt ℝ m) (ht : t.Valid) : IsProb (t.proba P) := by
  cases t with
  | hard raw => exact hP raw
  | soft L w raws => exact mixture_isProb w ht.1 ht.2 _ (fun l => hP (raws l))

end Xrfmv.Codec
