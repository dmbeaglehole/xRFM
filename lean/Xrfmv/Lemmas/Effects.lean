/-
The side-effect bracket model (`Xrfmv/Model/Effects.lean`): a well-bracketed trace restores the process state, by induction
over the grammar; the executable acceptor accepts a trace only if it equals the flattening of the bracket tree it has parsed, so
its soundness needs `flatten_wellBracketed` and nothing about the parser.
-/
import Xrfmv.Model.Effects

namespace Xrfmv.Effects

theorem exec_append (s : State) (a b : List Event) : exec s (a ++ b) = exec (exec s a) b := by
  induction a generalizing s with
  | nil => rfl
  | cons e a ih => exact ih (step s e)

theorem exec_singleton (s : State) (e : Event) : exec s [e] = step s e := rfl

theorem step_restoreEnv (s : State) (o : Option String) : step s (restoreEnv o) = { s with env := o } := by
  cases o <;> rfl

theorem exec_wellBracketed {s : State} {t : List Event} (h : WellBracketed s t) : exec s t = s := by
  induction h with
  | nil s => rfl
  | seq _ _ iha ihb => rw [exec_append, iha, ihb]
  | @threads s n body _ ih =>
      show exec { s with threads := n } (body ++ [.setThreads s.threads]) = s
      rw [exec_append, ih, exec_singleton]
      rfl
  | @env s v body _ ih =>
      show exec { s with env := some v } (body ++ [restoreEnv s.env]) = s
      rw [exec_append, ih, exec_singleton, step_restoreEnv]

theorem flatten_wellBracketed (t : Tree) : ∀ s : State, WellBracketed s (flatten s t) := by
  induction t with
  | nil => exact WellBracketed.nil
  | thr n body rest ihb ihr => exact fun s => (WellBracketed.threads n (ihb _)).seq (ihr s)
  | env v body rest ihb ihr => exact fun s => (WellBracketed.env v (ihb _)).seq (ihr s)

/-- Soundness of the executable acceptor used by the driver: an accepted trace is in the grammar, and the
reported final state is the initial one. -/
theorem accept_sound {s s' : State} {evs : List Event} (h : accept s evs = .ok s') :
    WellBracketed s evs ∧ s' = s := by
  unfold accept at h
  split at h
  · split at h
    · rename_i t _ hf
      cases h
      have hw : WellBracketed s evs := hf ▸ flatten_wellBracketed t s
      exact ⟨hw, exec_wellBracketed hw⟩
    · cases h
  all_goals cases h

/-- Calls whose body raises: the variable is still restored (the `finally`), the thread count need not be. -/
theorem raised_env_restored {s : State} {t : List Event} (h : Raised s t) : (exec s t).env = s.env := by
  induction h with
  | here s => rfl
  | after hw _ ih => rw [exec_append, exec_wellBracketed hw, ih]
  | @threads s n body _ ih =>
      show (exec { s with threads := n } body).env = s.env
      rw [ih]
  | @env s v body _ ih =>
      show (exec { s with env := some v } (body ++ [restoreEnv s.env])).env = s.env
      rw [exec_append, exec_singleton, step_restoreEnv]

end Xrfmv.Effects
