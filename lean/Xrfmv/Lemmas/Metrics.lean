/-
Lemmas about `Xrfmv.Metrics` (model of `xrfm/rfm_src/metrics.py`).  The model's hand recursions are first identified with
list-library forms (`zipWith`, `filter`/`map`, `List.sum` of a `map`); after that every loss is a mean of entries that are `≥ 0`,
and `0` on equal arguments, every score is a ratio of a count to a count that bounds it, and `argmax` is the first maximal index.
Value metrics are over an arbitrary linearly ordered field (so at `ℝ` and at `ℚ` = core `Rat`, the type the driver evaluates
at), `rmse` / `logloss` at `ℝ`; the counting metrics (`accuracy`, `f1`, `auc`) return `ℚ` and consult the scores through `<`
only: of the field in which the one-hot rows live only `0 < 1` and the asymmetry of `<` are used.
-/
import Xrfmv.Model.Metrics
import Xrfmv.Lemmas.RealInst

namespace Xrfmv.Metrics

section NormalForms
variable {α : Type}

theorem sqDiffs_eq_zipWith [Sub α] [Mul α] : ∀ y p : List α,
    sqDiffs y p = List.zipWith (fun a b => (a - b) * (a - b)) y p
  | [], _ => rfl
  | _ :: _, [] => rfl
  | _ :: ys, _ :: ps => congrArg _ (sqDiffs_eq_zipWith ys ps)

theorem absDiffs_eq_zipWith [Sub α] [HasAbs α] : ∀ y p : List α,
    absDiffs y p = List.zipWith (fun a b => HasAbs.abs (a - b)) y p
  | [], _ => rfl
  | _ :: _, [] => rfl
  | _ :: ys, _ :: ps => congrArg _ (absDiffs_eq_zipWith ys ps)

theorem mse_eq_mean [Add α] [Sub α] [Mul α] [Div α] [OfNat α 0] [NatCast α] (Y P : List (List α)) : mse Y P =
    sumL (List.zipWith (fun a b => (a - b) * (a - b)) Y.flatten P.flatten) / ((P.flatten.length : ℕ) : α) := by
  rw [mse, mseFlat, sqDiffs_eq_zipWith]

theorem mae_eq_mean [Add α] [Sub α] [Div α] [OfNat α 0] [NatCast α] [HasAbs α] (Y P : List (List α)) : mae Y P =
    sumL (List.zipWith (fun a b => HasAbs.abs (a - b)) Y.flatten P.flatten) / ((P.flatten.length : ℕ) : α) := by
  rw [mae, maeFlat, absDiffs_eq_zipWith]

theorem nll_eq_zipWith [Neg α] [OfNat α 0] [HasLog α] : ∀ (y : List ℕ) (P : List (List α)),
    nll y P = List.zipWith (fun c r => - HasLog.log (r.getD c 0)) y P
  | [], _ => rfl
  | _ :: _, [] => rfl
  | _ :: ys, _ :: rs => congrArg _ (nll_eq_zipWith ys rs)

theorem sel_map (c : ℕ) (eq : Bool) (g : ℕ → α) : ∀ y : List ℕ,
    sel c eq y (y.map g) = (y.filter fun d => decide (d = c) == eq).map g
  | [] => rfl
  | d :: ds => by
    rw [List.map_cons, sel, sel_map c eq g ds, List.filter_cons]
    by_cases h : decide (d = c) = eq <;> simp [h]

@[simp] theorem sumL_cons [Add α] [OfNat α 0] (x : α) (xs : List α) : sumL (x :: xs) = x + sumL xs := rfl

theorem sumL_eq_sum [Add α] [Zero α] (l : List α) : sumL l = l.sum := by
  induction l with
  | nil => rfl
  | cons x xs ih => rw [sumL_cons, ih, List.sum_cons]

end NormalForms

section OneHot
variable {α : Type} [OfNat α 0] [OfNat α 1]

theorem oneHotFrom_eq_map (c : ℕ) : ∀ (n s : ℕ),
    (oneHotFrom c s n : List α) = (List.range' s n).map fun j => if j = c then 1 else 0
  | 0, _ => rfl
  | n + 1, s => by rw [oneHotFrom, oneHotFrom_eq_map c n, List.range'_succ, List.map_cons]

theorem oneHot_eq_map (K c : ℕ) : (oneHot K c : List α) = (List.range K).map fun j => if j = c then 1 else 0 := by
  rw [oneHot, oneHotFrom_eq_map, List.range_eq_range']

@[simp] theorem oneHot_length (K c : ℕ) : (oneHot K c : List α).length = K := by
  rw [oneHot_eq_map, List.length_map, List.length_range]

theorem oneHot_getD (K c j : ℕ) : (oneHot K c : List α).getD j 0 = if j = c ∧ j < K then 1 else 0 := by
  rw [oneHot_eq_map, List.getD_eq_getElem?_getD, List.getElem?_map]
  by_cases hj : j < K
  · simp [hj]
  · simp [hj]

theorem numClasses_perfect {K : ℕ} {y : List ℕ} (hy : y ≠ []) :
    numClasses (perfect K y : List (List α)) = K := by
  cases y with
  | nil => exact absurd rfl hy
  | cons c cs => exact oneHot_length K c

theorem column_perfect (K c : ℕ) (y : List ℕ) :
    column c (perfect K y : List (List α)) = y.map fun d => (oneHot K d).getD c 0 := by
  rw [column, perfect, List.map_map]; rfl

end OneHot

section Sums
variable {α : Type} [Field α] [LinearOrder α] [IsStrictOrderedRing α]

@[simp] theorem sumL_nil : sumL ([] : List α) = 0 := rfl

/-- The idea behind every loss of this file: a mean of non-negative entries is non-negative, whatever the denominator,
and `0` when every entry is (`mean_eq_zero`). -/
theorem mean_nonneg {l : List α} (h : ∀ x ∈ l, 0 ≤ x) (n : ℕ) : 0 ≤ sumL l / (n : α) := by
  rw [sumL_eq_sum]
  exact div_nonneg (List.sum_nonneg h) n.cast_nonneg

omit [LinearOrder α] [IsStrictOrderedRing α] in
theorem mean_eq_zero {l : List α} (h : ∀ x ∈ l, x = 0) (n : ℕ) : sumL l / (n : α) = 0 := by
  rw [sumL_eq_sum, List.sum_eq_zero h, zero_div]

theorem mean_zipWith_nonneg {β γ : Type} {f : β → γ → α} (hf : ∀ a b, 0 ≤ f a b) (y : List β) (p : List γ) (n : ℕ) :
    0 ≤ sumL (List.zipWith f y p) / (n : α) :=
  mean_nonneg (by rw [← List.map_uncurry_zip_eq_zipWith]; exact List.forall_mem_map.2 fun _ _ => hf _ _) n

omit [LinearOrder α] [IsStrictOrderedRing α] in
theorem mean_zipWith_self {β : Type} {f : β → β → α} (hf : ∀ a, f a a = 0) (y : List β) (n : ℕ) :
    sumL (List.zipWith f y y) / (n : α) = 0 :=
  mean_eq_zero (by rw [List.zipWith_self]; exact List.forall_mem_map.2 fun a _ => hf a) n

end Sums

section Value
variable {α : Type} [Field α] [LinearOrder α] [IsStrictOrderedRing α]

theorem mse_nonneg (Y P : List (List α)) : 0 ≤ mse Y P :=
  mse_eq_mean Y P ▸ mean_zipWith_nonneg (fun _ _ => mul_self_nonneg _) _ _ _

omit [LinearOrder α] [IsStrictOrderedRing α] in
theorem mse_self (Y : List (List α)) : mse Y Y = 0 :=
  mse_eq_mean Y Y ▸ mean_zipWith_self (fun a => by rw [sub_self, mul_zero]) _ _

section Abs
variable [HasAbs α]

theorem mae_nonneg (habs : ∀ x : α, HasAbs.abs x = |x|) (Y P : List (List α)) : 0 ≤ mae Y P :=
  mae_eq_mean Y P ▸ mean_zipWith_nonneg (fun _ _ => habs _ ▸ abs_nonneg _) _ _ _

theorem mae_self (habs : ∀ x : α, HasAbs.abs x = |x|) (Y : List (List α)) : mae Y Y = 0 :=
  mae_eq_mean Y Y ▸ mean_zipWith_self (fun a => by rw [habs, sub_self, abs_zero]) _ _

end Abs

theorem brier_nonneg (y : List ℕ) (P : List (List α)) : 0 ≤ brier y P := mse_nonneg _ _

end Value

theorem abs_real (x : ℝ) : HasAbs.abs x = |x| := rfl

theorem abs_rat (x : ℚ) : HasAbs.abs x = |x| := by
  show (if x < 0 then -x else x) = |x|
  split
  · next h => exact (abs_of_neg h).symm
  · next h => exact (abs_of_nonneg (not_lt.mp h)).symm

section ArgMax
variable {α : Type} [LT α] [DecidableLT α]

theorem argmaxV_cons (x y : α) (ys : List α) : argmaxV x (y :: ys) =
    if x < (argmaxV y ys).2 then ((argmaxV y ys).1 + 1, (argmaxV y ys).2) else (0, x) := rfl

theorem argmaxV_eq_getD (d x : α) (xs : List α) :
    ∃ j < (x :: xs).length, argmaxV x xs = (j, (x :: xs).getD j d) := by
  induction xs generalizing x with
  | nil => exact ⟨0, Nat.one_pos, rfl⟩
  | cons y ys ih =>
    obtain ⟨j, hj, e⟩ := ih y
    rw [argmaxV_cons, e]
    split
    · exact ⟨j + 1, Nat.succ_lt_succ hj, rfl⟩
    · exact ⟨0, Nat.succ_pos _, rfl⟩

/-- `torch.argmax` returns the first maximal index (only `<` is consulted, so no order axioms are needed). -/
theorem argmax_eq_of_first_max (d : α) {l : List α} {i : ℕ} (hi : i < l.length)
    (hlt : ∀ j < i, l.getD j d < l.getD i d) (hge : ∀ j < l.length, ¬ l.getD i d < l.getD j d) :
    argmax l = i := by
  cases l with
  | nil => exact absurd hi (Nat.not_lt_zero _)
  | cons x xs =>
    suffices h : argmaxV x xs = (i, (x :: xs).getD i d) from congrArg Prod.fst h
    induction xs generalizing x i with
    | nil => cases Nat.lt_one_iff.1 hi; rfl
    | cons y ys ih =>
      rw [argmaxV_cons]
      cases i with
      | zero =>
        -- the head is kept: the best of the tail is an entry, and no entry exceeds the head
        obtain ⟨j, hj, e⟩ := argmaxV_eq_getD d y ys
        rw [e]
        exact if_neg (hge (j + 1) (Nat.succ_lt_succ hj))
      | succ i =>
        rw [ih y (Nat.lt_of_succ_lt_succ hi) (fun j hj => hlt (j + 1) (Nat.succ_lt_succ hj))
          fun j hj => hge (j + 1) (Nat.succ_lt_succ hj)]
        exact if_pos (hlt 0 (Nat.succ_pos i))

end ArgMax

section OneHotOrdered
variable {α : Type} [Field α] [LinearOrder α] [IsStrictOrderedRing α]

theorem argmax_oneHot {K c : ℕ} (h : c < K) : argmax (oneHot K c : List α) = c := by
  have h01 : (0 : α) < 1 := zero_lt_one
  have hc : (oneHot K c : List α).getD c 0 = 1 := by rw [oneHot_getD, if_pos ⟨rfl, h⟩]
  refine argmax_eq_of_first_max 0 (by rw [oneHot_length]; exact h) (fun j hj => ?_) (fun j _ => ?_)
  · rw [hc, oneHot_getD, if_neg fun e => hj.ne e.1]
    exact h01
  · rw [hc, oneHot_getD]
    split
    · exact lt_irrefl 1
    · exact lt_asymm h01

theorem predLabels_perfect {K : ℕ} {y : List ℕ} (h : ∀ c ∈ y, c < K) :
    predLabels (perfect K y : List (List α)) = y := by
  rw [predLabels, perfect, List.map_map]
  exact (List.map_congr_left fun c hc => argmax_oneHot (h c hc)).trans (List.map_id' y)

omit [LinearOrder α] [IsStrictOrderedRing α] in
theorem brier_perfect {K : ℕ} {y : List ℕ} (hy : y ≠ []) : brier y (perfect K y : List (List α)) = 0 := by
  unfold brier
  rw [numClasses_perfect hy]
  exact mse_self _

end OneHotOrdered

theorem ratio_le_one {a b : ℕ} (h : a ≤ b) : (a : ℚ) / (b : ℚ) ≤ 1 :=
  div_le_one_of_le₀ (Nat.cast_le.2 h) b.cast_nonneg

theorem ratio_self {a : ℕ} (h : a ≠ 0) : (a : ℚ) / (a : ℚ) = 1 := div_self (Nat.cast_ne_zero.2 h)

/-- F1 and AUC of `K` classes: the value of class 1 for `K = 2`, the unweighted mean over the classes otherwise.  Such
an average of values `≤ 1` is `≤ 1` (also for `K = 0`, where the mean is `0 / 0 = 0`). -/
theorem classAverage_le_one (K : ℕ) (g : ℕ → ℚ) (h : ∀ c, g c ≤ 1) :
    (if K = 2 then g 1 else sumL ((List.range K).map g) / (K : ℚ)) ≤ 1 := by
  split
  · exact h 1
  · have := List.sum_le_card_nsmul ((List.range K).map g) 1 (List.forall_mem_map.2 fun c _ => h c)
    rw [List.length_map, List.length_range, nsmul_one, ← sumL_eq_sum] at this
    exact div_le_one_of_le₀ this K.cast_nonneg

/-- The class average of `classAverage_le_one` is `1` when every class that enters it has value `1`. -/
theorem classAverage_eq_one {K : ℕ} (hK : 0 < K) (g : ℕ → ℚ) (h : ∀ c < K, (K = 2 → c = 1) → g c = 1) :
    (if K = 2 then g 1 else sumL ((List.range K).map g) / (K : ℚ)) = 1 := by
  split
  · next h2 => exact h 1 (h2 ▸ Nat.one_lt_two) fun _ => rfl
  · next h2 =>
    rw [sumL_eq_sum, List.sum_eq_card_nsmul _ 1 (List.forall_mem_map.2 fun c hc =>
      h c (List.mem_range.1 hc) fun e => absurd e h2), List.length_map, List.length_range, nsmul_one]
    exact ratio_self hK.ne'

section HardLabels
variable {α : Type} [LT α] [DecidableLT α]

theorem agree_le : ∀ (y h : List ℕ), agree y h ≤ h.length
  | [], _ => Nat.zero_le _
  | _ :: _, [] => Nat.le_refl 0
  | y :: ys, h :: hs => by
    have := agree_le ys hs
    simp only [agree, List.length_cons]
    split <;> omega

theorem agree_self : ∀ (y : List ℕ), agree y y = y.length
  | [] => rfl
  | y :: ys => by rw [agree, if_pos rfl, agree_self ys, List.length_cons, Nat.add_comm]

theorem accuracyL_le_one (y h : List ℕ) : accuracyL y h ≤ 1 := ratio_le_one (agree_le y h)

theorem accuracyL_nonneg (y h : List ℕ) : 0 ≤ accuracyL y h :=
  div_nonneg (Nat.cast_nonneg _) (Nat.cast_nonneg _)

theorem accuracyL_self {y : List ℕ} (hy : y ≠ []) : accuracyL y y = 1 := by
  unfold accuracyL
  rw [agree_self]
  exact ratio_self (mt List.length_eq_zero_iff.1 hy)

theorem accuracy_le_one (y : List ℕ) (P : List (List α)) : accuracy y P ≤ 1 := accuracyL_le_one _ _

theorem accuracy_eq_one {y : List ℕ} {P : List (List α)} (hy : y ≠ []) (hP : predLabels P = y) :
    accuracy y P = 1 := by
  rw [accuracy, hP]
  exact accuracyL_self hy

theorem fp_self (c : ℕ) : ∀ (y : List ℕ), fp c y y = 0
  | [] => rfl
  | y :: ys => by rw [fp, if_neg fun h => h.1 h.2, fp_self c ys]

theorem fn_self (c : ℕ) : ∀ (y : List ℕ), fn c y y = 0
  | [] => rfl
  | y :: ys => by rw [fn, if_neg fun h => h.2 h.1, fn_self c ys]

theorem tp_self (c : ℕ) : ∀ y : List ℕ, tp c y y = y.count c
  | [] => rfl
  | d :: ds => by
    rw [tp, tp_self c ds, List.count_cons]
    by_cases h : d = c <;> simp [h, Nat.add_comm]

theorem f1Class_le_one (c : ℕ) (y h : List ℕ) : f1Class c y h ≤ 1 := by
  unfold f1Class
  split
  · exact zero_le_one
  · exact ratio_le_one (by omega)

theorem f1Class_self {c : ℕ} {y : List ℕ} (h : c ∈ y) : f1Class c y y = 1 := by
  have ht : 0 < tp c y y := by rw [tp_self]; exact List.count_pos_iff.2 h
  unfold f1Class
  rw [fp_self, fn_self, if_neg (by omega)]
  exact ratio_self (by omega)

theorem f1L_le_one (K : ℕ) (y h : List ℕ) : f1L K y h ≤ 1 :=
  classAverage_le_one K _ fun c => f1Class_le_one c y h

theorem f1L_self {K : ℕ} {y : List ℕ} (hK : 0 < K) (hall : ∀ c < K, c ∈ y) : f1L K y y = 1 :=
  classAverage_eq_one hK _ fun c hc _ => f1Class_self (hall c hc)

theorem f1_le_one (y : List ℕ) (P : List (List α)) : f1 y P ≤ 1 := f1L_le_one _ _ _

theorem f1_eq_one {K : ℕ} {y : List ℕ} {P : List (List α)} (hPK : numClasses P = K) (hK : 0 < K)
    (hall : ∀ c < K, c ∈ y) (hP : predLabels P = y) : f1 y P = 1 := by
  rw [f1, hP, hPK]
  exact f1L_self hK hall

end HardLabels

theorem sum_map_le_length_mul {β : Type} {f : β → ℕ} {k : ℕ} {l : List β} (h : ∀ b ∈ l, f b ≤ k) :
    (l.map f).sum ≤ l.length * k := by
  have := List.sum_le_card_nsmul (l.map f) k (List.forall_mem_map.2 h)
  rwa [List.length_map, smul_eq_mul] at this

theorem sum_map_eq_length_mul {β : Type} {f : β → ℕ} {k : ℕ} {l : List β} (h : ∀ b ∈ l, f b = k) :
    (l.map f).sum = l.length * k := by
  rw [List.sum_eq_card_nsmul _ k (List.forall_mem_map.2 h), List.length_map, smul_eq_mul]

section Auc
variable {α : Type} [LT α] [DecidableLT α]

theorem pairRow_eq_sum (a : α) : ∀ neg : List α, pairRow a neg = (neg.map (pairScore a)).sum
  | [] => rfl
  | b :: bs => congrArg (pairScore a b + ·) (pairRow_eq_sum a bs)

theorem pairSum_eq_sum (neg : List α) : ∀ pos : List α,
    pairSum pos neg = (pos.map fun a => (neg.map (pairScore a)).sum).sum
  | [] => rfl
  | a :: as => congrArg₂ (· + ·) (pairRow_eq_sum a neg) (pairSum_eq_sum neg as)

theorem pairScore_le (a b : α) : pairScore a b ≤ 2 := by
  unfold pairScore; split
  · exact le_rfl
  · split <;> omega

theorem pairSum_le (pos neg : List α) : pairSum pos neg ≤ 2 * (pos.length * neg.length) := by
  rw [pairSum_eq_sum, Nat.mul_left_comm]
  exact sum_map_le_length_mul fun a _ =>
    (sum_map_le_length_mul fun b _ => pairScore_le a b).trans_eq (Nat.mul_comm _ _)

theorem pairSum_sep {pos neg : List α} (h : ∀ a ∈ pos, ∀ b ∈ neg, b < a) :
    pairSum pos neg = 2 * (pos.length * neg.length) := by
  rw [pairSum_eq_sum, Nat.mul_left_comm]
  exact sum_map_eq_length_mul fun a ha =>
    (sum_map_eq_length_mul fun b hb => if_pos (h a ha b hb)).trans (Nat.mul_comm _ _)

theorem aucPN_le_one (pos neg : List α) : aucPN pos neg ≤ 1 := ratio_le_one (pairSum_le pos neg)

theorem aucPN_nonneg (pos neg : List α) : 0 ≤ aucPN pos neg :=
  div_nonneg (Nat.cast_nonneg _) (Nat.cast_nonneg _)

theorem aucPN_sep {pos neg : List α} (hp : pos ≠ []) (hn : neg ≠ [])
    (h : ∀ a ∈ pos, ∀ b ∈ neg, b < a) : aucPN pos neg = 1 := by
  unfold aucPN
  rw [pairSum_sep h]
  exact ratio_self (Nat.mul_ne_zero two_ne_zero
    (Nat.mul_ne_zero (mt List.length_eq_zero_iff.1 hp) (mt List.length_eq_zero_iff.1 hn)))

/-- Class `c` is *separated* by the scores `s`: it has positives and negatives and every positive is scored
strictly above every negative. -/
def Separated (c : ℕ) (y : List ℕ) (s : List α) : Prop :=
  sel c true y s ≠ [] ∧ sel c false y s ≠ [] ∧ ∀ a ∈ sel c true y s, ∀ b ∈ sel c false y s, b < a

theorem aucClass_le_one (c : ℕ) (y : List ℕ) (s : List α) : aucClass c y s ≤ 1 := aucPN_le_one _ _

theorem aucClass_sep {c : ℕ} {y : List ℕ} {s : List α} (h : Separated c y s) : aucClass c y s = 1 :=
  aucPN_sep h.1 h.2.1 h.2.2

theorem auc_le_one [OfNat α 0] (y : List ℕ) (P : List (List α)) : auc y P ≤ 1 :=
  classAverage_le_one _ _ fun c => aucClass_le_one c y _

theorem auc_eq_one [OfNat α 0] {K : ℕ} {y : List ℕ} {P : List (List α)} (hPK : numClasses P = K) (hK : 0 < K)
    (h : ∀ c < K, (K = 2 → c = 1) → Separated c y (column c P)) : auc y P = 1 := by
  rw [auc, hPK]
  exact classAverage_eq_one hK _ fun c hc h2 => aucClass_sep (h c hc h2)

end Auc

theorem separated_map {α : Type} [LT α] {c : ℕ} {y : List ℕ} {g : ℕ → α} (hin : c ∈ y) (hother : ∃ d ∈ y, d ≠ c)
    (hg : ∀ d ∈ y, d ≠ c → g d < g c) : Separated c y (y.map g) := by
  obtain ⟨d, hd, hdc⟩ := hother
  rw [Separated, sel_map, sel_map]
  refine ⟨List.ne_nil_of_mem (List.mem_map_of_mem (List.mem_filter.2 ⟨hin, by simp⟩)),
    List.ne_nil_of_mem (List.mem_map_of_mem (List.mem_filter.2 ⟨hd, by simpa using hdc⟩)), ?_⟩
  intro a ha b hb
  obtain ⟨i, hi, rfl⟩ := List.mem_map.1 ha
  obtain ⟨j, hj, rfl⟩ := List.mem_map.1 hb
  rw [List.mem_filter] at hi hj
  obtain rfl : i = c := of_decide_eq_true (eq_of_beq hi.2)
  exact hg j hj.1 (of_decide_eq_false (eq_of_beq hj.2))

theorem rmse_eq_sqrt (Y P : List (List ℝ)) : rmse Y P = Real.sqrt (mse Y P) := rfl

theorem rmse_self (Y : List (List ℝ)) : rmse Y Y = 0 := by
  rw [rmse_eq_sqrt, mse_self, Real.sqrt_zero]

theorem rmse_nonneg (Y P : List (List ℝ)) : 0 ≤ rmse Y P := Real.sqrt_nonneg _

theorem rmse_le_iff (Y P Q : List (List ℝ)) : rmse Y P ≤ rmse Y Q ↔ mse Y P ≤ mse Y Q := by
  rw [rmse_eq_sqrt, rmse_eq_sqrt]
  exact Real.sqrt_le_sqrt_iff (mse_nonneg Y Q)

theorem logloss_nonneg (y : List ℕ) (P : List (List ℝ)) (h : ∀ r ∈ P, ∀ p ∈ r, 0 < p ∧ p ≤ 1) :
    0 ≤ logloss y P := by
  refine mean_nonneg ?_ _
  rw [nll_eq_zipWith, ← List.map_uncurry_zip_eq_zipWith]
  refine List.forall_mem_map.2 fun ⟨c, r⟩ hcr => neg_nonneg.2 ?_
  have hr : r ∈ P := (List.of_mem_zip hcr).2
  show Real.log (r.getD c 0) ≤ 0
  rw [List.getD_eq_getElem?_getD]
  -- an index past the row reads the default `0`, and `log 0 = 0`
  cases hc : r[c]? with
  | none => exact Real.log_zero.le
  | some p =>
    obtain ⟨h0, h1⟩ := h r hr p (List.mem_of_getElem? hc)
    exact Real.log_nonpos h0.le h1

theorem logloss_perfect {K : ℕ} {y : List ℕ} (h : ∀ c ∈ y, c < K) :
    logloss y (perfect K y : List (List ℝ)) = 0 := by
  refine mean_eq_zero ?_ _
  rw [nll_eq_zipWith, perfect, List.zipWith_map_right, List.zipWith_self]
  refine List.forall_mem_map.2 fun c hc => ?_
  rw [oneHot_getD, if_pos ⟨rfl, h c hc⟩]
  exact neg_eq_zero.2 Real.log_one

/-- `a` is at least as good as `b` in the declared direction. -/
def AtLeastAsGood {β : Type} [LE β] (maximize : Bool) (a b : β) : Prop :=
  if maximize then b ≤ a else a ≤ b

/-- Labels `0..K-1`, every class present. -/
def ValidLabels (K : ℕ) (y : List ℕ) : Prop := (∀ c ∈ y, c < K) ∧ (∀ c < K, c ∈ y)

/-- Every entry of the probability matrix lies in `(0, 1]`. -/
def ProbEntries (P : List (List ℝ)) : Prop := ∀ r ∈ P, ∀ p ∈ r, 0 < p ∧ p ≤ 1

/-- "Predictions identical to the targets score at least as well as any other predictions when the metric
named `name` is optimised in direction `maximize`" – the truthfulness claim of C16 for one table entry.
Regression: any matrices; classification: `K ≥ 2` classes all present, perfect predictions = one-hot rows;
log-loss: competing entries in `(0,1]`.  Unknown names have no such claim. -/
def PerfectOptimal (name : String) (maximize : Bool) : Prop :=
  if name = "mse" then ∀ Y P : List (List ℝ), AtLeastAsGood maximize (mse Y Y) (mse Y P)
  else if name = "rmse" then ∀ Y P : List (List ℝ), AtLeastAsGood maximize (rmse Y Y) (rmse Y P)
  else if name = "mae" then ∀ Y P : List (List ℝ), AtLeastAsGood maximize (mae Y Y) (mae Y P)
  else if name = "accuracy" then ∀ (K : ℕ) (y : List ℕ) (P : List (List ℝ)), 2 ≤ K → ValidLabels K y →
    AtLeastAsGood maximize (accuracy y (perfect K y : List (List ℝ))) (accuracy y P)
  else if name = "brier" then ∀ (K : ℕ) (y : List ℕ) (P : List (List ℝ)), 2 ≤ K → ValidLabels K y →
    AtLeastAsGood maximize (brier y (perfect K y : List (List ℝ))) (brier y P)
  else if name = "logloss" then ∀ (K : ℕ) (y : List ℕ) (P : List (List ℝ)), 2 ≤ K → ValidLabels K y →
    ProbEntries P → AtLeastAsGood maximize (logloss y (perfect K y : List (List ℝ))) (logloss y P)
  else if name = "f1" then ∀ (K : ℕ) (y : List ℕ) (P : List (List ℝ)), 2 ≤ K → ValidLabels K y →
    AtLeastAsGood maximize (f1 y (perfect K y : List (List ℝ))) (f1 y P)
  else if name = "auc" then ∀ (K : ℕ) (y : List ℕ) (P : List (List ℝ)), 2 ≤ K → ValidLabels K y →
    AtLeastAsGood maximize (auc y (perfect K y : List (List ℝ))) (auc y P)
  else False

theorem ValidLabels.ne_nil {K : ℕ} {y : List ℕ} (hK : 2 ≤ K) (h : ValidLabels K y) : y ≠ [] :=
  List.ne_nil_of_mem (h.2 0 (Nat.lt_of_lt_of_le Nat.two_pos hK))

section Perfect
variable {α : Type} [Field α] [LinearOrder α] [IsStrictOrderedRing α]

theorem accuracy_perfect {K : ℕ} {y : List ℕ} (hK : 2 ≤ K) (h : ValidLabels K y) :
    accuracy y (perfect K y : List (List α)) = 1 :=
  accuracy_eq_one (h.ne_nil hK) (predLabels_perfect h.1)

theorem f1_perfect {K : ℕ} {y : List ℕ} (hK : 2 ≤ K) (h : ValidLabels K y) :
    f1 y (perfect K y : List (List α)) = 1 :=
  f1_eq_one (numClasses_perfect (h.ne_nil hK)) (Nat.lt_of_lt_of_le Nat.two_pos hK) h.2 (predLabels_perfect h.1)

theorem separated_perfect {K c : ℕ} {y : List ℕ} (hc : c < K) (hin : c ∈ y) (hother : ∃ d ∈ y, d ≠ c) :
    Separated c y (column c (perfect K y : List (List α))) := by
  rw [column_perfect]
  refine separated_map hin hother fun d _ hd => ?_
  rw [oneHot_getD, oneHot_getD, if_neg fun e => hd e.1.symm, if_pos ⟨rfl, hc⟩]
  exact zero_lt_one

theorem auc_perfect {K : ℕ} {y : List ℕ} (hK : 2 ≤ K) (h : ValidLabels K y) :
    auc y (perfect K y : List (List α)) = 1 := by
  refine auc_eq_one (numClasses_perfect (h.ne_nil hK)) (Nat.lt_of_lt_of_le Nat.two_pos hK) fun c hc _ => ?_
  -- some other class is present: `1` for `c = 0`, `0` otherwise
  refine separated_perfect hc (h.2 c hc) ?_
  cases c with
  | zero => exact ⟨1, h.2 1 hK, Nat.one_ne_zero⟩
  | succ c => exact ⟨0, h.2 0 (Nat.lt_of_lt_of_le Nat.two_pos hK), (Nat.succ_ne_zero c).symm⟩

end Perfect

/- Each term below is checked against `PerfectOptimal name flag` by evaluating the string equalities of its `if`-chain down
to the branch of `name` and unfolding `AtLeastAsGood` at the flag. -/

theorem perfectOptimal_mse : PerfectOptimal "mse" false :=
  fun Y P => (mse_self Y).trans_le (mse_nonneg Y P)

theorem perfectOptimal_rmse : PerfectOptimal "rmse" false :=
  fun Y P => (rmse_self Y).trans_le (rmse_nonneg Y P)

theorem perfectOptimal_mae : PerfectOptimal "mae" false :=
  fun Y P => (mae_self abs_real Y).trans_le (mae_nonneg abs_real Y P)

theorem perfectOptimal_accuracy : PerfectOptimal "accuracy" true :=
  fun _ y P hK hy => (accuracy_le_one y P).trans_eq (accuracy_perfect hK hy).symm

theorem perfectOptimal_brier : PerfectOptimal "brier" false :=
  fun _ y P hK hy => (brier_perfect (hy.ne_nil hK)).trans_le (brier_nonneg y P)

theorem perfectOptimal_logloss : PerfectOptimal "logloss" false :=
  fun _ y P _ hy hP => (logloss_perfect hy.1).trans_le (logloss_nonneg y P hP)

theorem perfectOptimal_f1 : PerfectOptimal "f1" true :=
  fun _ y P hK hy => (f1_le_one y P).trans_eq (f1_perfect hK hy).symm

theorem perfectOptimal_auc : PerfectOptimal "auc" true :=
  fun _ y P hK hy => (auc_le_one y P).trans_eq (auc_perfect hK hy).symm

end Xrfmv.Metrics
