/-
Positive semi-definiteness of `exp(−c‖a−b‖_p^q)` on `Fin m → ℝ` for `0 < q ≤ p ≤ 2`, `c ≥ 0` (Schoenberg).

`(s−t)²` is conditionally negative definite (CND) on `ℝ` (`isCND_sq_sub`); CND kernels are closed under `ψ ↦ ψ^a`,
`0 < a ≤ 1` (`IsCND.rpow`: by the Bernstein representation of `Lemmas/PsdBernstein.lean`, `ψ^a` is an integral of the
CND kernels `1 − e^{−tψ}`); hence `|s−t|^p`, the coordinate sum `Σ_k |a_k−b_k|^p` and its power `q/p` are CND, and
`IsCND.exp_neg` of `Lemmas/PsdKernel.lean` applies.  The sum-power profile with a natural power is positive semi-definite by
the one-dimensional case of the same argument and Schur powers (`posSemidef_sumPower`).
-/
import Xrfmv.Lemmas.PsdKernel
import Xrfmv.Lemmas.PsdBernstein

namespace Xrfmv.Psd
open Matrix Finset MeasureTheory Set

variable {X : Type*}

theorem posSemidef_setIntegral {K : ℝ → Matrix X X ℝ} {s : Set ℝ} (hs : MeasurableSet s)
    (hK : ∀ t ∈ s, (K t).PosSemidef) (hint : ∀ x y, IntegrableOn (fun t => K t x y) s) :
    (of fun x y => ∫ t in s, K t x y).PosSemidef := by
  refine ⟨IsHermitian.ext fun x y => setIntegral_congr_fun hs fun t ht => (hK t ht).1.apply x y, fun μ => ?_⟩
  -- the form of the integral is the integral of the forms
  have h := setIntegral_nonneg (μ := volume) hs fun t ht => (hK t ht).2 μ
  simp only [Finsupp.sum] at h ⊢
  rw [integral_finsetSum _ fun i _ => integrable_finsetSum _ fun j _ => ((hint i j).const_mul _).mul_const _] at h
  refine h.trans_eq (sum_congr rfl fun i _ => ?_)
  rw [integral_finsetSum _ fun j _ => ((hint i j).const_mul _).mul_const _]
  exact sum_congr rfl fun j _ => by rw [integral_mul_const, integral_const_mul, of_apply]

theorem IsCND.setIntegral {ψ : ℝ → X → X → ℝ} {s : Set ℝ} (hs : MeasurableSet s) (h : ∀ t ∈ s, IsCND (ψ t))
    (hint : ∀ x y, IntegrableOn (fun t => ψ t x y) s) : IsCND fun x y => ∫ t in s, ψ t x y :=
  ⟨fun x y => setIntegral_congr_fun hs fun t ht => (h t ht).symm x y, fun x0 => by
    have h2 : ∀ x y, IntegrableOn (fun t => ψ t x x0 + ψ t x0 y) s := fun x y => (hint x x0).add (hint x0 y)
    have h3 : ∀ x y, IntegrableOn (fun t => ψ t x x0 + ψ t x0 y - ψ t x y) s := fun x y => (h2 x y).sub (hint x y)
    convert posSemidef_setIntegral hs (fun t ht => (h t ht).centred x0) fun x y => (h3 x y).sub (hint x0 x0) using 1
    ext x y
    simp only [of_apply]
    rw [integral_sub (h3 x y) (hint x0 x0), integral_sub (h2 x y) (hint x y), integral_add (hint x x0) (hint x0 y)]⟩

/-- `C_a · ψ^a = ∫₀^∞ t^{−1−a} (1 − e^{−tψ}) dt` is an integral of CND kernels. -/
theorem IsCND.rpow {ψ : X → X → ℝ} (h : IsCND ψ) (hnn : ∀ x y, 0 ≤ ψ x y) {a : ℝ} (h0 : 0 < a)
    (h1 : a ≤ 1) : IsCND fun x y => ψ x y ^ a := by
  rcases h1.eq_or_lt with rfl | h1
  · simpa only [Real.rpow_one] using h
  have hC := bernC_pos h0 h1
  -- the integrand these `smul`s produce must be, factor by factor, the one `bern_scaled_integrableOn` / `bernC_mul_rpow` are stated for
  convert ((IsCND.setIntegral measurableSet_Ioi
    (fun t (ht : 0 < t) => (h.smul ht.le).one_sub_exp_neg.smul (Real.rpow_nonneg ht.le (-1 - a)))
    fun x y => bern_scaled_integrableOn h0 h1 (hnn x y)).smul (inv_nonneg.2 hC.le)) using 3 with x y
  rw [bernC_mul_rpow h0 (hnn x y), inv_mul_cancel_left₀ hC.ne']

theorem isCND_abs_rpow {p : ℝ} (hp0 : 0 < p) (hp2 : p ≤ 2) : IsCND fun s t : ℝ => |s - t| ^ p := by
  convert isCND_sq_sub.rpow (fun s t => sq_nonneg (s - t)) (half_pos hp0) (div_le_one_of_le₀ hp2 zero_le_two)
    using 3 with s t
  -- `|s − t|^p = ((s − t)²)^(p/2)`
  rw [← sq_abs, ← Real.rpow_two, ← Real.rpow_mul (abs_nonneg _), two_mul, add_halves]

theorem isCND_lp_pow (m : ℕ) {p : ℝ} (hp0 : 0 < p) (hp2 : p ≤ 2) :
    IsCND fun a b : Fin m → ℝ => ∑ k, |a k - b k| ^ p :=
  IsCND.sum univ fun k _ => (isCND_abs_rpow hp0 hp2).comap fun a : Fin m → ℝ => a k

theorem posSemidef_lpq (m : ℕ) {p q c : ℝ} (hq : 0 < q) (hqp : q ≤ p) (hp2 : p ≤ 2) (hc : 0 ≤ c) :
    (of fun a b : Fin m → ℝ => Real.exp (-(c * (∑ k, |a k - b k| ^ p) ^ (q / p)))).PosSemidef := by
  have hp0 : 0 < p := lt_of_lt_of_le hq hqp
  have h1 := (isCND_lp_pow m hp0 hp2).rpow
    (fun a b => sum_nonneg fun k _ => Real.rpow_nonneg (abs_nonneg _) _) (a := q / p)
    (div_pos hq hp0) ((div_le_one hp0).mpr hqp)
  exact (h1.smul hc).exp_neg

/-- The sum-power profile with a natural power: a non-negative combination of pull-backs of the one-dimensional kernel
`exp(−c·|s−t|^q)` along the coordinates and of a constant, then Schur powers. -/
theorem posSemidef_sumPower (m : ℕ) {q c c₀ : ℝ} (hq : 0 < q) (hq2 : q ≤ 2) (hc : 0 ≤ c) (h0 : 0 ≤ c₀)
    (h1 : c₀ ≤ 1) (P : ℕ) :
    (of fun a b : Fin m → ℝ =>
      ((1 - c₀) * ((∑ k, Real.exp (-(c * |a k - b k| ^ q))) / (m : ℝ)) + c₀) ^ P).PosSemidef := by
  have h1d : (of fun s t : ℝ => Real.exp (-(c * |s - t| ^ q))).PosSemidef :=
    ((isCND_abs_rpow hq hq2).smul hc).exp_neg
  have hs := ((posSemidef_sum univ fun k _ => h1d.submatrix fun a : Fin m → ℝ => a k).smul_real
    (mul_nonneg (sub_nonneg.mpr h1) (inv_nonneg.2 (Nat.cast_nonneg m)))).add (posSemidef_const h0)
  convert hs.hadamard_pow P using 1
  ext a b
  simp only [of_apply, Matrix.add_apply, Matrix.smul_apply, Matrix.sum_apply, submatrix_apply, smul_eq_mul]
  ring

end Xrfmv.Psd
