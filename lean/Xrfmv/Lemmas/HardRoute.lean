/- Lemmas for C01: stack traversal = recursion, restore = inverse permutation, chunked prediction = map. -/
import Xrfmv.Model.HardRoute
import Mathlib.Data.List.Nodup

namespace Xrfmv.HardRoute
open Xrfmv.Gen.Route

variable {N L X Y : Type}

theorem pushChildren_eq (goes : N → X → Bool) (rows : List (Nat × X)) (g : N) (l r : Tree N L)
    (stack : List (Entry N L X)) :
    pushChildren goes rows g l r stack =
      (if (rows.filter fun ix => goes g ix.2).isEmpty then [] else [(rows.filter fun ix => goes g ix.2, l)]) ++
      ((if (rows.filter fun ix => !goes g ix.2).isEmpty then [] else [(rows.filter fun ix => !goes g ix.2, r)]) ++
        stack) := by
  simp only [pushChildren, pushOrder, skipEmptyGroups, List.foldl_cons, List.foldl_nil, Bool.true_and]
  cases (rows.filter fun ix => goes g ix.2).isEmpty <;> cases (rows.filter fun ix => !goes g ix.2).isEmpty <;> rfl

theorem groupsLoop_spec (goes : N → X → Bool) (stack : List (Entry N L X)) (acc : List (List (Nat × X) × L)) :
    groupsLoop goes stack acc = acc ++ stack.flatMap fun e => groupsRec goes e.2 e.1 := by
  induction stack, acc using groupsLoop.induct goes with
  | case1 acc => rw [groupsLoop, List.flatMap_nil, List.append_nil]
  | case2 rows m stack acc ih =>
    rw [groupsLoop, ih, List.flatMap_cons, List.append_assoc]; rfl
  | case3 rows g l r stack acc ih =>
    rw [groupsLoop, ih, pushChildren_eq]
    -- `flatMap` over the at most two pushed entries is `groupsRec` of the node
    simp only [List.flatMap_append, List.flatMap_cons, groupsRec, List.append_assoc,
      apply_ite (List.flatMap (fun e : Entry N L X => groupsRec goes e.2 e.1)), List.flatMap_nil, List.append_nil]

theorem groups_eq_rec (goes : N → X → Bool) (t : Tree N L) (xs : List X) :
    groups goes t xs = groupsRec goes t (xs.zipIdx.map fun xi => (xi.2, xi.1)) := by
  simp [groups, groupsLoop_spec]

/-- Each row is predicted exactly once, by the leaf it is routed to. -/
theorem tagged_groupsRec_perm (goes : N → X → Bool) (f : L → X → Y) (t : Tree N L) :
    ∀ rows : List (Nat × X),
      (tagged f (groupsRec goes t rows)).Perm (rows.map fun ix => (ix.1, f (route goes t ix.2) ix.2)) := by
  induction t with
  | leaf m => intro rows; simp [groupsRec, tagged, route]
  | node g l r ihl ihr =>
    intro rows
    -- one child `s`, reached by the rows that satisfy `p`; a skipped (empty) group contributes nothing either way
    have side : ∀ (p : Nat × X → Bool) (s : Tree N L),
        (∀ rs, (tagged f (groupsRec goes s rs)).Perm (rs.map fun ix => (ix.1, f (route goes s ix.2) ix.2))) →
        (∀ ix, p ix = true → route goes (.node g l r) ix.2 = route goes s ix.2) →
        (tagged f (if (rows.filter p).isEmpty then [] else groupsRec goes s (rows.filter p))).Perm
          ((rows.filter p).map fun ix => (ix.1, f (route goes (.node g l r) ix.2) ix.2)) := by
      intro p s ih hroute
      rw [List.map_congr_left fun ix hix => by rw [hroute ix (List.mem_filter.mp hix).2]]
      split
      · rename_i he; rw [List.isEmpty_iff.mp he]; exact .refl _
      · exact ih _
    have hsplit := (List.filter_append_perm (fun ix : Nat × X => goes g ix.2) rows).map
      fun ix => (ix.1, f (route goes (.node g l r) ix.2) ix.2)
    rw [List.map_append] at hsplit
    simp only [groupsRec, tagged, List.flatMap_append]
    exact ((side _ l ihl fun ix h => by simp only [route, h, if_true]).append
      (side _ r ihr fun ix h => by
        rw [Bool.not_eq_true'] at h; simp only [route, h, Bool.false_eq_true, if_false])).trans hsplit

/-- Restore = inverse permutation: sorting the concatenated positions and gathering returns the values in the
caller's order, whenever the tagged values are a permutation of a list whose positions are strictly increasing. -/
theorem restore_of_perm (P Q : List (Nat × Y)) (hperm : P.Perm Q)
    (hsorted : (Q.map Prod.fst).Pairwise (· < ·)) : restore P = Q.map Prod.snd := by
  unfold restore
  congr 1
  -- both lists are sorted by position and hold the same entries; positions are distinct, so they are equal
  have hS : (P.mergeSort fun a b => decide (a.1 ≤ b.1)).Perm Q := (List.mergeSort_perm P _).trans hperm
  have hSs := List.pairwise_mergeSort (le := fun a b : Nat × Y => decide (a.1 ≤ b.1))
    (fun _ _ _ h1 h2 => decide_eq_true (Nat.le_trans (of_decide_eq_true h1) (of_decide_eq_true h2)))
    (fun a b => by rw [Bool.or_eq_true, decide_eq_true_eq, decide_eq_true_eq]; exact Nat.le_total _ _) P
  refine hS.eq_of_pairwise (fun a b ha hb h1 h2 => ?_) hSs
    ((List.pairwise_map.mp hsorted).imp fun h => decide_eq_true (Nat.le_of_lt h))
  exact List.inj_on_of_nodup_map (hsorted.imp Nat.ne_of_lt) (hS.mem_iff.mp ha) hb
    (Nat.le_antisymm (of_decide_eq_true h1) (of_decide_eq_true h2))

/-- Hard-routed prediction = map: for every tree, every batch and every leaf predictor, the value returned for a
row is the predictor of the leaf that row is routed to, applied to that row — in the caller's order. -/
theorem predictHard_eq_map (goes : N → X → Bool) (f : L → X → Y) (t : Tree N L) (xs : List X) :
    predictHard goes f t xs = xs.map fun x => f (route goes t x) x := by
  unfold predictHard
  -- the rows enter tagged with their positions `0, 1, …`, which are increasing
  rw [groups_eq_rec, restore_of_perm _ _ (tagged_groupsRec_perm goes f t _) (by
    simp only [List.map_map, Function.comp_def, List.zipIdx_map_snd]; exact List.pairwise_lt_range')]
  -- both sides as maps over `xs.zipIdx`, whose first components are `xs`
  conv_rhs => rw [← List.zipIdx_map_fst 0 xs]
  simp only [List.map_map, Function.comp_def]

theorem batched_eq_map (bs : Nat) (hbs : 1 ≤ bs) (f : X → Y) (xs : List X) :
    batched bs (List.map f) xs = xs.map f := by
  have key : ∀ m : Nat,
      ((List.range m).flatMap fun k => ((xs.drop (k * bs)).take bs).map f) = (xs.take (m * bs)).map f := by
    intro m
    induction m with
    | zero => simp
    | succ m ih =>
      rw [List.range_succ, List.flatMap_append, ih, List.flatMap_singleton, ← List.map_append, Nat.succ_mul,
        List.take_add]
  rw [batched, key, List.take_of_length_le]
  -- `⌈length / bs⌉` chunks reach the end of the list
  have := Nat.lt_mul_div_succ (xs.length + bs - 1) hbs
  rw [Nat.mul_succ, Nat.mul_comm] at this
  omega

end Xrfmv.HardRoute
