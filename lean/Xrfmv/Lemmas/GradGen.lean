/-
The regenerated weight programs (`Gen.GradOps`, translated from `LaplaceKernel._get_function_grad_impl` and
`LightLaplaceKernel.get_function_grads`) compute, at `ℝ`, the factor `−(q/L^q)·k·dist^{q−2}` of the closed-form gradient with
the coincidence mask `dist ≥ eps`; hence the gradients assembled from them are those of `Model/Grad.lean`.
-/
import Xrfmv.Model.GradGen
import Xrfmv.Lemmas.GradBasic

namespace Xrfmv.GradGen
-- `Params` is both `Grad.Params` (the model's) and `KernelOps.Params` (what the programs read): it has to be qualified
open Xrfmv Xrfmv.Grad Xrfmv.TensorProg Xrfmv.KernelOps

theorem _root_.Xrfmv.TensorProg.Env.set_apply {α : Type} (ρ : Env α) (k : String) (v : α) (n : String) :
    (ρ.set k v) n = if n = k then v else ρ n :=
  rfl

/-- The weight either program computes from a prepared distance `d`:
`exp(d^q·(−1/L^q)) · max(d, eps)^{q−2} · [d ≥ eps] · (−q/L^q)`.  Each program is run on its own: nothing rests on
the two bodies being the same text.
No law of `rpow` is available (the statements resting on this lemma have no guard on `L`): a factor `-((1/L)**q)` is not covered. -/
theorem body_weight (P : Grad.Params ℝ) {g : GradProg ℝ}
    (hg : g = Gen.GradOps.laplaceGrad (toOps P) ∨ g = Gen.GradOps.lightGrad (toOps P)) (d : ℝ) :
    run g.body (fun n => if n = "dists" then d else 0) g.weights = if d < P.eps then 0 else l2Factor P d := by
  -- a lookup is an `if` on an equality of string literals: `String.reduceEq` decides it and `↓reduceIte` resolves the
  -- `if` before its dead branch (an ever longer chain of lookups) is visited
  rcases hg with rfl | rfl <;>
  · simp only [Gen.GradOps.laplaceGrad, Gen.GradOps.lightGrad, toOps, run, List.foldl, Stmt.exec, Op.apply, Env.set_apply,
      ↓String.reduceEq, ↓reduceIte, rpow_real, exp_real, l2Factor]
    split_ifs with h
    · ring
    · rw [max_eq_left (not_lt.1 h)]
      -- `ring_nf`, not `ring`: the two sides also differ inside the argument of `exp`
      ring_nf

theorem weight_laplace (P : Grad.Params ℝ) {d : ℝ} (hd : 0 ≤ d) :
    weight (Gen.GradOps.laplaceGrad (toOps P)) d = if d < P.eps then 0 else l2Factor P d := by
  have hprep : runOps (Gen.GradOps.laplaceGrad (toOps P)).prep d = d := by
    simp only [Gen.GradOps.laplaceGrad, runOps, List.foldl, Op.apply, max_eq_left hd]
  unfold weight
  rw [hprep]
  exact body_weight P (.inl rfl) d

theorem weight_light (P : Grad.Params ℝ) (r : ℝ) :
    weight (Gen.GradOps.lightGrad (toOps P)) r
      = if Real.sqrt (max r 0) < P.eps then 0 else l2Factor P (Real.sqrt (max r 0)) := by
  have hprep : runOps (Gen.GradOps.lightGrad (toOps P)).prep r = Real.sqrt (max r 0) := by
    simp only [Gen.GradOps.lightGrad, runOps, List.foldl, Op.apply, sqrt_real]
  unfold weight
  rw [hprep]
  exact body_weight P (.inr rfl) _

theorem gradL2_eq (P : Grad.Params ℝ) (u v : List ℝ) :
    GradGen.gradL2 P u v = Grad.gradL2 P u v := by
  unfold GradGen.gradL2 Grad.gradL2
  simp only [sqrt_real]
  rw [weight_laplace P (Real.sqrt_nonneg _)]
  split_ifs
  · simp only [zero_mul]
  · rfl

theorem gradLight_eq (P : Grad.Params ℝ) (M : Grad.Transform ℝ) (x z : List ℝ) :
    GradGen.gradLight P M x z = Grad.gradLight P M x z := by
  unfold GradGen.gradLight Grad.gradLight
  simp only [sqrt_real]
  rw [weight_light P, ← lightSq_eq_max]
  split_ifs
  · simp only [zero_mul]
  · rfl

end Xrfmv.GradGen
