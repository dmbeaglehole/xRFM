/-
The Fréchet derivative of the predictor on `ℝⁿ` (C04, full strength): `w ↦ Σ_i c_i k(x_i T, w T)` is differentiable at
every point in general position, and the row returned by the gradient code is its gradient as a linear functional
(`IsGradAt`).  Route: the chain rule for the separable form of `Lemmas/Grad.lean` (`SepForm.isGradAt`); linear combinations
(`fval_isGradAt`); one theorem for every transform that acts as a symmetric matrix (`ActsAs`, `predictRow_isGradAt`); the
memory-light kernel as the radial profile of the quadratic form `Δ M Δᵀ` (`light_isGradAt`).

Trap: the chain rule written with dot notation on the derivative of the outer function (`hΦ.comp t hc`,
`hΦ.comp_hasFDerivAt z hf`), or without an expected type, elaborates to the same term but makes the proof around it several
times as much work to elaborate (about ten times in `SepForm.isPartialAt`, three times in `SepForm.isGradAt`).  Hence the
full names, or one of the two functions as a named argument, against a known goal in these two, in the chain rules of
`Props/C04.lean` and (`(f := A)`) in `hasFDerivAt_comp_vecMul`.
-/
import Xrfmv.Lemmas.Grad
import Xrfmv.Lemmas.ListOfFn

namespace Xrfmv.Grad

theorem vsub_ofFn {n : ℕ} (w x : Fin n → ℝ) :
    vsub (List.ofFn w) (List.ofFn x) = List.ofFn fun e => w e - x e := zipWith_ofFn _ w x

theorem mem_vsub_ofFn {n : ℕ} (w x : Fin n → ℝ) (e : Fin n) : w e - x e ∈ vsub (List.ofFn w) (List.ofFn x) :=
  vsub_ofFn w x ▸ List.mem_ofFn.2 ⟨e, rfl⟩

theorem vsum_ofFn {n : ℕ} (f : Fin n → ℝ) : vsum (List.ofFn f) = ∑ e, f e := by
  rw [vsum_eq_sum, List.sum_ofFn]

theorem vsum_map_ofFn {n : ℕ} (f : ℝ → ℝ) (g : Fin n → ℝ) : vsum ((List.ofFn g).map f) = ∑ e, f (g e) := by
  rw [List.map_ofFn, vsum_ofFn]; rfl

theorem dot_ofFn {n : ℕ} (a b : Fin n → ℝ) : dot (List.ofFn a) (List.ofFn b) = ∑ e, a e * b e :=
  vsum_zipWith_ofFn _ a b

theorem applyT_diag_ofFn {n : ℕ} (τ w : Fin n → ℝ) :
    applyT (.diag (List.ofFn τ)) (List.ofFn w) = List.ofFn fun e => w e * τ e := by
  simp only [applyT]; exact zipWith_ofFn _ w τ

theorem applyT_full_ofFn {n : ℕ} (T : Matrix (Fin n) (Fin n) ℝ) (x : Fin n → ℝ) :
    applyT (.full (List.ofFn fun i => List.ofFn (T i))) (List.ofFn x) = List.ofFn (Matrix.vecMul x T) := by
  have hl : (applyT (.full (List.ofFn fun i => List.ofFn (T i))) (List.ofFn x)).length = n := by
    simp only [applyT, List.length_map, List.length_range, List.length_ofFn]
  rw [eq_ofFn_getD _ hl 0]
  exact congrArg List.ofFn (funext fun e => by rw [List.getD_eq_getElem?_getD, applyT_full_entry T x e]; rfl)

/-- The linear functional `v ↦ g · v` on `ℝⁿ`. -/
noncomputable def gradFn {n : ℕ} (g : Fin n → ℝ) : (Fin n → ℝ) →L[ℝ] ℝ :=
  ∑ e, g e • (ContinuousLinearMap.proj e : (Fin n → ℝ) →L[ℝ] ℝ)

section gradFn
variable {n : ℕ}

theorem gradFn_apply (g v : Fin n → ℝ) : gradFn g v = g ⬝ᵥ v := by
  simp only [gradFn, sum_apply, smul_apply, ContinuousLinearMap.proj_apply, smul_eq_mul, dotProduct]

theorem gradFn_add (a b : Fin n → ℝ) : gradFn (fun e => a e + b e) = gradFn a + gradFn b :=
  ContinuousLinearMap.ext fun v => by
    rw [add_apply, gradFn_apply, gradFn_apply, gradFn_apply]
    exact add_dotProduct a b v

theorem gradFn_smul (c : ℝ) (g : Fin n → ℝ) : gradFn (fun e => c * g e) = c • gradFn g :=
  ContinuousLinearMap.ext fun v => by
    simp only [smul_apply, gradFn_apply, smul_eq_mul, dotProduct, Finset.mul_sum, mul_assoc]

theorem gradFn_zero : gradFn (fun _ : Fin n => (0 : ℝ)) = 0 :=
  ContinuousLinearMap.ext fun v => by
    rw [gradFn_apply, zero_apply]
    exact zero_dotProduct v

theorem clm_eq_gradFn (G' : (Fin n → ℝ) →L[ℝ] ℝ) : G' = gradFn fun e => G' (Pi.single e 1) :=
  ContinuousLinearMap.ext fun v => by
    rw [gradFn_apply, dotProduct]
    conv_lhs => rw [pi_eq_sum_univ' v, map_sum]
    exact Finset.sum_congr rfl fun e _ => by rw [map_smul, smul_eq_mul, mul_comm]

end gradFn

/-- The list `g` is the gradient at `z : ℝⁿ` of `f`, a function of the list of coordinates. -/
def IsGradAt {n : ℕ} (f : List ℝ → ℝ) (g : List ℝ) (z : Fin n → ℝ) : Prop :=
  HasFDerivAt (fun w : Fin n → ℝ => f (List.ofFn w)) (gradFn fun e => g.getD e 0) z

/-- `SepForm.isPartialAt` on `ℝⁿ`: the row is the gradient when every coordinate is `ok`. -/
theorem SepForm.isGradAt {n : ℕ} {ok : ℝ → Prop} {f : List ℝ → ℝ} {g : List ℝ} {x z : Fin n → ℝ}
    (hs : SepForm ok f g (List.ofFn x) (List.ofFn z)) (hok : ∀ e, ok (z e - x e)) : IsGradAt f g z := by
  obtain ⟨Φ, ψ, F, Φ', val, rfl, hΦ, inner⟩ := hs
  choose ψ' hψ hF using fun e => inner _ (hok e)
  have hval : (fun w : Fin n → ℝ => f (List.ofFn w)) = fun w => Φ (∑ e, ψ (w e - x e)) := funext fun w => by
    rw [val _ (by rw [List.length_ofFn, List.length_ofFn]), vsub_ofFn, vsum_map_ofFn]
  -- entry `e` of the row is `F (z_e − x_e) = Φ'·ψ'_e`, so the row's `gradFn` is `Φ' • gradFn ψ'`, and `gradFn ψ'` is by
  -- definition the sum `HasFDerivAt.fun_sum` produces
  simp only [IsGradAt, hval, vsub_ofFn, List.map_ofFn, vsum_ofFn, getD_ofFn, Function.comp_def, hF, gradFn_smul] at hΦ ⊢
  refine HasDerivAt.comp_hasFDerivAt z hΦ (HasFDerivAt.fun_sum fun e _ => ?_)
  exact HasDerivAt.comp_hasFDerivAt z (hψ e) ((hasFDerivAt_apply (𝕜 := ℝ) e z).sub_const (x e))

def AllCoordOK {n : ℕ} (k : Kind) (P : Params ℝ) (x z : Fin n → ℝ) : Prop :=
  ∀ e : Fin n, CoordOK k P (List.ofFn x) (List.ofFn z) (z e - x e)

/-- A coordinate-wise kernel with `|Δ_e| ≥ eps` in every coordinate: `Δ_e ≠ 0`, and the mask quantity is `‖Δ‖ ≥ |Δ_e|`. -/
theorem allCoordOK_of_abs_ge {n : ℕ} {k : Kind} (hk : k = .prod ∨ k = .lpq ∨ k = .sumPower) (P : Params ℝ)
    (heps : 0 < P.eps) (hq : 0 < P.q) (hp : 0 < P.p) {x z : Fin n → ℝ} (h : ∀ e, P.eps ≤ |z e - x e|) :
    AllCoordOK k P x z := fun e => by
  have hne : z e - x e ≠ 0 := abs_pos.1 (heps.trans_le (h e))
  have hnorm {p : ℝ} (hp' : 0 < p) := not_lt.2 ((h e).trans (abs_le_pNorm hp' (mem_vsub_ofFn z x e)))
  rcases hk with rfl | rfl | rfl
  · exact ⟨hne, hnorm hq⟩
  · exact ⟨hne, hnorm hp⟩
  · exact not_lt.2 (h e)

theorem pair_isGradAt {n : ℕ} [NeZero n] (k : Kind) (P : Params ℝ) (heps : 0 < P.eps) (hp : 0 < P.p) (hc0 : 0 ≤ P.cmix)
    (hc1 : P.cmix < 1) (x z : Fin n → ℝ) (h : AllCoordOK k P x z) :
    IsGradAt (kval k P (List.ofFn x)) (pairGrad k P (List.ofFn x) (List.ofFn z)) z :=
  -- there is a coordinate (`NeZero n`); which one is immaterial to `pair_sepForm`
  (pair_sepForm k P heps hp hc0 hc1 _ _ (mem_vsub_ofFn z x 0) (h 0)).isGradAt h

theorem fval_isGradAt {n : ℕ} (kf : List ℝ → List ℝ → ℝ) (pg : List ℝ → List ℝ → List ℝ) (z : Fin n → ℝ)
    (c : List ℝ) (us : List (List ℝ)) (hlen : ∀ u ∈ us, (pg u (List.ofFn z)).length = (List.ofFn z).length)
    (h : ∀ u ∈ us, IsGradAt (kf u) (pg u (List.ofFn z)) z) :
    IsGradAt (fval kf c us) (rowGrad pg c us (List.ofFn z)) z := by
  -- entry `e` of `rowGrad` is `Σ_i c_i·(pg u_i z)_e`; then induction on the zip of `c` and `us`
  simp only [IsGradAt, (rowGrad_length_getD pg _ c us hlen).2, fval] at h ⊢
  clear hlen
  induction c generalizing us with
  | nil =>
    simp only [List.zipWith_nil_left, vsum_nil, gradFn_zero]
    exact hasFDerivAt_const _ _
  | cons ci c ih =>
    cases us with
    | nil =>
      simp only [List.zipWith_nil_right, vsum_nil, gradFn_zero]
      exact hasFDerivAt_const _ _
    | cons u us =>
      simp only [List.zipWith_cons_cons, vsum_cons, gradFn_add, gradFn_smul]
      exact ((h u List.mem_cons_self).const_mul ci).add (ih us fun u' hu' => h u' (List.mem_cons_of_mem _ hu'))

section transform
variable {n : ℕ}

/-- The list model's transform acts as the matrix `M` (true for `none` with `M = 1`, a vector with `M = diagonal`, and a
matrix given by rows).  Used as an equation: `hT v`, or `hT` handed to `rw` / `simp`. -/
def ActsAs (T : Transform ℝ) (M : Matrix (Fin n) (Fin n) ℝ) : Prop :=
  ∀ v : Fin n → ℝ, applyT T (List.ofFn v) = List.ofFn (Matrix.vecMul v M)

theorem actsAs_none : ActsAs (n := n) .none 1 := by
  intro v; simp [applyT]

theorem actsAs_diag (τ : Fin n → ℝ) : ActsAs (.diag (List.ofFn τ)) (Matrix.diagonal τ) := by
  intro v
  rw [applyT_diag_ofFn]
  congr 1
  funext e
  simp [Matrix.vecMul_diagonal]

theorem actsAs_full (M : Matrix (Fin n) (Fin n) ℝ) : ActsAs (.full (List.ofFn fun i => List.ofFn (M i))) M :=
  fun v => applyT_full_ofFn M v

theorem dotProduct_vecMul_symm {M : Matrix (Fin n) (Fin n) ℝ} (hM : M.IsSymm) (g v : Fin n → ℝ) :
    g ⬝ᵥ Matrix.vecMul v M = Matrix.vecMul g M ⬝ᵥ v := by
  rw [← Matrix.mulVec_transpose, hM.eq, Matrix.dotProduct_mulVec]

/-- Chain rule through `w ↦ wM` for symmetric `M`: the gradient is multiplied by `M` again, which is what
`_transform_m(grads, mat)` does. -/
theorem hasFDerivAt_comp_vecMul (M : Matrix (Fin n) (Fin n) ℝ) (hM : M.IsSymm) (G : (Fin n → ℝ) → ℝ)
    (g z : Fin n → ℝ) (hG : HasFDerivAt G (gradFn g) (Matrix.vecMul z M)) :
    HasFDerivAt (fun w => G (Matrix.vecMul w M)) (gradFn (Matrix.vecMul g M)) z := by
  -- `w ↦ wM` as a continuous linear map; going through `LinearMap.toContinuousLinearMap` is slow to elaborate
  let A : (Fin n → ℝ) →L[ℝ] (Fin n → ℝ) := ⟨Matrix.vecMulLinear M, LinearMap.continuous_on_pi _⟩
  have e : gradFn g ∘L A = gradFn (Matrix.vecMul g M) := ContinuousLinearMap.ext fun v => by
    rw [ContinuousLinearMap.comp_apply, gradFn_apply, gradFn_apply]
    exact dotProduct_vecMul_symm hM g v
  exact e ▸ hG.comp (f := A) z A.hasFDerivAt

/-- **The Fréchet derivative of the predictor of the raw point**, kernels evaluated on transformed points (L2, product,
Lpq, sum-power), `mat` none, a vector or a symmetric matrix: at a point whose image is in general position w.r.t. the
image of every center the row `(∇f)(zT)·T` returned by `fgrad` is the gradient of `z ↦ Σ_i c_i k(x_i T, z T)`. -/
theorem predictRow_isGradAt [NeZero n] (k : Kind) (hk : k ≠ .light) (P : Params ℝ) (heps : 0 < P.eps)
    (hp : 0 < P.p) (hc0 : 0 ≤ P.cmix) (hc1 : P.cmix < 1) {T : Transform ℝ} {M : Matrix (Fin n) (Fin n) ℝ}
    (hT : ActsAs T M) (hM : M.IsSymm) (xs : List (Fin n → ℝ)) (c : List ℝ) (z : Fin n → ℝ)
    (hgp : ∀ x ∈ xs, AllCoordOK k P (Matrix.vecMul x M) (Matrix.vecMul z M)) :
    IsGradAt (predictRow k P T (xs.map List.ofFn) c)
      (((fgrad k P T (xs.map List.ofFn) [List.ofFn z] [c]).headD []).headD []) z := by
  have hmap : (xs.map List.ofFn).map (applyT T) = xs.map fun x => List.ofFn (Matrix.vecMul x M) := by
    rw [List.map_map]; exact List.map_congr_left fun x _ => hT x
  have hpl : ∀ u ∈ xs.map fun x => List.ofFn (Matrix.vecMul x M),
      (pairGrad k P u _).length = (List.ofFn (Matrix.vecMul z M)).length :=
    List.forall_mem_map.2 fun x _ => pairGrad_length k P _ _ (by simp)
  have hlen := (rowGrad_length_getD (pairGrad k P) _ c _ hpl).1.trans List.length_ofFn
  have hG := fval_isGradAt (kval k P) (pairGrad k P) (Matrix.vecMul z M) c _ hpl
    (List.forall_mem_map.2 fun x hx => pair_isGradAt k P heps hp hc0 hc1 _ _ (hgp x hx))
  simp only [IsGradAt, predictRow_of_ne_light hk, fgrad_of_ne_light hk, List.map_cons, List.map_nil, List.headD_cons, hmap,
    hT _]
  -- the inner row as `List.ofFn` of its entries, so that the outer `applyT T` is `vecMul _ M` by `hT`
  rw [eq_ofFn_getD _ hlen 0, hT]
  simp only [getD_ofFn]
  exact hasFDerivAt_comp_vecMul M hM _ _ z hG

/-- `Δ M Δᵀ` with `Δ = w − x`. -/
def quad (M : Matrix (Fin n) (Fin n) ℝ) (x w : Fin n → ℝ) : ℝ :=
  ∑ e, (w e - x e) * Matrix.vecMul (fun i => w i - x i) M e

theorem lightSq_ofFn {T : Transform ℝ} {M : Matrix (Fin n) (Fin n) ℝ} (hT : ActsAs T M) (x w : Fin n → ℝ) :
    lightSq T (List.ofFn x) (List.ofFn w) = if quad M x w < 0 then 0 else quad M x w := by
  simp only [lightSq, vsub_ofFn]
  rw [hT (fun e => w e - x e), dot_ofFn]
  rfl

theorem gradLight_ofFn (P : Params ℝ) {T : Transform ℝ} {M : Matrix (Fin n) (Fin n) ℝ} (hT : ActsAs T M)
    (x z : Fin n → ℝ) (hm : P.eps ≤ Real.sqrt (lightSq T (List.ofFn x) (List.ofFn z))) :
    gradLight P T (List.ofFn x) (List.ofFn z) =
      List.ofFn fun d => l2Factor P (Real.sqrt (lightSq T (List.ofFn x) (List.ofFn z))) *
        Matrix.vecMul (fun i => z i - x i) M d := by
  simp only [gradLight, sqrt_real, if_neg (not_lt.mpr hm), vsub_ofFn]
  rw [hT (fun e => z e - x e), List.map_ofFn]
  rfl

theorem quad_hasFDerivAt (M : Matrix (Fin n) (Fin n) ℝ) (hM : M.IsSymm) (x z : Fin n → ℝ) :
    HasFDerivAt (quad M x) (gradFn fun d => 2 * Matrix.vecMul (fun i => z i - x i) M d) z := by
  have ha : ∀ e : Fin n, HasFDerivAt (fun w : Fin n → ℝ => w e - x e) (ContinuousLinearMap.proj e) z :=
    fun e => (hasFDerivAt_apply (𝕜 := ℝ) e z).sub_const (x e)
  have hb : ∀ e : Fin n, HasFDerivAt (fun w : Fin n → ℝ => Matrix.vecMul (fun i => w i - x i) M e)
      (gradFn fun i => M i e) z := fun e =>
    HasFDerivAt.fun_sum (u := Finset.univ) fun i _ => (ha i).mul_const (M i e)
  refine (HasFDerivAt.fun_sum (u := Finset.univ) fun e _ => (ha e).mul (hb e)).congr_fderiv
    (ContinuousLinearMap.ext fun v => ?_)
  have e1 : ∀ e, (fun i => M i e) ⬝ᵥ v = Matrix.vecMul v M e := fun e => dotProduct_comm _ _
  simp only [gradFn_apply, sum_apply, add_apply, smul_apply, ContinuousLinearMap.proj_apply,
    smul_eq_mul, Finset.sum_add_distrib, e1]
  -- `Δ·(vM) + (ΔM)·v = 2(ΔM)·v` for symmetric `M`
  show (fun i => z i - x i) ⬝ᵥ Matrix.vecMul v M + Matrix.vecMul (fun i => z i - x i) M ⬝ᵥ v
    = ((2 : ℝ) • Matrix.vecMul (fun i => z i - x i) M) ⬝ᵥ v
  rw [dotProduct_vecMul_symm hM, smul_dotProduct, smul_eq_mul, two_mul]

theorem kLight_isGradAt (P : Params ℝ) (heps : 0 < P.eps) {T : Transform ℝ} {M : Matrix (Fin n) (Fin n) ℝ}
    (hT : ActsAs T M) (hM : M.IsSymm) (x z : Fin n → ℝ)
    (hm : P.eps ≤ Real.sqrt (lightSq T (List.ofFn x) (List.ofFn z))) :
    IsGradAt (kLight P T (List.ofFn x)) (gradLight P T (List.ofFn x) (List.ofFn z)) z := by
  have hr : 0 < lightSq T (List.ofFn x) (List.ofFn z) := Real.sqrt_pos.1 (heps.trans_le hm)
  have hq := quad_hasFDerivAt M hM x z
  simp only [IsGradAt, gradLight_ofFn P hT x z hm, getD_ofFn, kLight]
  simp only [lightSq_ofFn hT] at hr ⊢
  have hc := hq.congr_of_eventuallyEq (clamp_eventuallyEq hq.continuousAt hr)
  -- without `(h₂ := _)` the unifier unfolds `radial` and takes `exp` for the outer function
  refine HasFDerivAt.congr_fderiv
    (HasDerivAt.comp_hasFDerivAt (h₂ := radial P.L P.q) z (l2Outer_hasDerivAt P hr) hc) ?_
  rw [← gradFn_smul]
  exact congrArg gradFn (funext fun d => by ring)

/-- **The Fréchet derivative of the memory-light predictor** (`M` = none, a vector or a symmetric matrix): at a point
whose mask quantity `√(Δ M Δᵀ)` is at least `eps` for every center, `w ↦ Σ_i c_i k_M(x_i, w)` is differentiable and its
derivative is the linear functional whose coefficients are the row the gradient code returns. -/
theorem light_isGradAt (P : Params ℝ) (heps : 0 < P.eps) {T : Transform ℝ} {M : Matrix (Fin n) (Fin n) ℝ}
    (hT : ActsAs T M) (hM : M.IsSymm) (xs : List (Fin n → ℝ)) (c : List ℝ) (z : Fin n → ℝ)
    (hgp : ∀ x ∈ xs, P.eps ≤ Real.sqrt (lightSq T (List.ofFn x) (List.ofFn z))) :
    IsGradAt (fval (kLight P T) c (xs.map List.ofFn))
      (rowGrad (gradLight P T) c (xs.map List.ofFn) (List.ofFn z)) z := by
  refine fval_isGradAt (kLight P T) (gradLight P T) z c _ (List.forall_mem_map.2 fun x hx => ?_)
    (List.forall_mem_map.2 fun x hx => kLight_isGradAt P heps hT hM x z (hgp x hx))
  rw [gradLight_ofFn P hT x z (hgp x hx), List.length_ofFn, List.length_ofFn]

end transform

end Xrfmv.Grad
