/-
The regenerated `forward_func` closures (`Gen.FwdOps`) evaluate, at `ℝ` and away from their coincidence masks, the closed-form
kernels of `Model/Grad.lean`; on a masked pair (product, Lpq) the summand is the constant 1.

A program is run by unfolding `runLets` and `TE.eval`; the lookups of the named tensors are `if`s on equalities of string
literals, which `String.reduceEq` decides and `↓reduceIte` resolves before the dead branch is visited.  `↓String.reduceEq`:
as a pre-procedure it also compares a name with itself, so the same call works whether or not a lookup reaches past a later
binding.
-/
import Xrfmv.Model.FwdGen
import Xrfmv.Lemmas.GradBasic

namespace Xrfmv.FwdGen
open Xrfmv Xrfmv.Grad Xrfmv.FwdProg

theorem inv_rpow_eq {L : ℝ} (hL : 0 ≤ L) (q : ℝ) : (1 / L) ^ q = 1 / L ^ q := by
  rw [one_div, Real.inv_rpow hL, one_div]

/-- Either pair program, run on its own, from the base distance `D`.  The script covers, for either program, the mask as a
0/1 factor and as `torch.where`. -/
theorem pairValue_eq (P : Grad.Params ℝ) (hL : 0 ≤ P.L) {g : Prog ℝ}
    (hg : g = Gen.FwdOps.product (toOps P 0) ∨ g = Gen.FwdOps.lpq (toOps P 0)) (D : ℝ) :
    pairValue g D = if D < P.eps then 1 else Real.exp (-(D ^ P.q) / P.L ^ P.q) := by
  rcases hg with rfl | rfl <;>
  · simp only [pairValue, Gen.FwdOps.product, Gen.FwdOps.lpq, toOps, runLets, List.foldl, TE.eval, ↓String.reduceEq,
      ↓reduceIte, rpow_real, exp_real, inv_rpow_eq hL]
    -- `torch.where` tests the 0/1 mask against 1
    by_cases h : D < P.eps
    · simp only [if_pos h, zero_lt_one, ↓reduceIte]
      exact (congrArg Real.exp (by ring)).trans Real.exp_zero
    · simp only [if_neg h, lt_self_iff_false, ↓reduceIte, max_eq_left (not_lt.1 h)]
      exact congrArg Real.exp (by ring)

theorem pNorm_rpow_self {q : ℝ} (hq : 0 < q) (Δ : List ℝ) : (pNorm q Δ) ^ q = pSum q Δ := by
  simp only [pNorm, rpow_real]
  rw [← Real.rpow_mul (pSum_nonneg q Δ), one_div, inv_mul_cancel₀ hq.ne', Real.rpow_one]

theorem kProd_eq (P : Grad.Params ℝ) (hL : 0 ≤ P.L) (hq : 0 < P.q) (u v : List ℝ)
    (hgp : P.eps ≤ pNorm P.q (vsub v u)) :
    FwdGen.kProd P u v = Grad.kProd P u v := by
  unfold FwdGen.kProd Grad.kProd
  rw [pairValue_eq P hL (.inl rfl), if_neg (not_lt.2 hgp), pNorm_rpow_self hq]
  rfl

theorem kLpq_eq (P : Grad.Params ℝ) (hL : 0 ≤ P.L) (u v : List ℝ) (hgp : P.eps ≤ pNorm P.p (vsub v u)) :
    FwdGen.kLpq P u v = Grad.kLpq P u v := by
  unfold FwdGen.kLpq Grad.kLpq
  rw [pairValue_eq P hL (.inr rfl), if_neg (not_lt.2 hgp)]
  rfl

theorem sumPower_coord (P : Grad.Params ℝ) (hL : 0 ≤ P.L) (dim t : ℝ) (ht : P.eps ≤ |t|) :
    runLets (Gen.FwdOps.sumPower (toOps P dim)).coordLets
        (fun n => if n = (Gen.FwdOps.sumPower (toOps P dim)).base then t else 0)
        ((Gen.FwdOps.sumPower (toOps P dim)).reduced.getD (Gen.FwdOps.sumPower (toOps P dim)).base)
      = profile P.L P.q t := by
  -- the factor may be `-1/L^q` or `-((1/L)^q)`: every quotient by `L^q` (that of `profile` too) becomes a product with `(1/L)^q`
  have hdiv : ∀ x : ℝ, x / P.L ^ P.q = x * (1 / P.L) ^ P.q := fun x => by rw [inv_rpow_eq hL, mul_one_div]
  simp only [Gen.FwdOps.sumPower, toOps, runLets, List.foldl, TE.eval, Option.getD_some, ↓String.reduceEq, ↓reduceIte,
    rpow_real, exp_real, abs_real, if_neg (not_lt.2 ht), lt_self_iff_false, max_eq_left ht, profile, hdiv]
  exact congrArg Real.exp (by ring)

theorem kSumPower_eq (P : Grad.Params ℝ) (hL : 0 ≤ P.L) (u v : List ℝ) (hgp : ∀ t ∈ vsub v u, P.eps ≤ |t|) :
    FwdGen.kSumPower P u v = Grad.kSumPower P u v := by
  -- the closure's `Σ` is `Kernel.sumL`, the same right fold as `Grad.vsum`; its `P.dim` was set to `lenS (vsub v u)`
  have hs : ∀ l : List ℝ, Kernel.sumL l = vsum l := fun _ => rfl
  unfold FwdGen.kSumPower Grad.kSumPower pairValueCoords
  rw [List.map_congr_left fun t ht => sumPower_coord P hL _ t (hgp t ht)]
  simp only [Gen.FwdOps.sumPower, toOps, runLets, List.foldl, TE.eval, ↓String.reduceEq, ↓reduceIte, rpow_real, hs]
  exact congrArg (· ^ P.power) (by unfold sBracket; ring)

end Xrfmv.FwdGen
