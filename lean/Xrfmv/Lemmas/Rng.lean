/-
The explicit-state RNG model (`Xrfmv/Model/Rng.lean`).  `AgreeOn G a b`: the states `a`, `b` are indistinguishable to draw
sites reading a generator in `G`; it is preserved by draws (`AgreeOn.consume`), decides what such sites see (`run_congr`)
and is established by seeding (`agreeOn_seedWith`).  It is deliberately weaker than equality of states: a source that stops
seeding a generator no site reads keeps it true, though the seeded states then differ.
-/
import Xrfmv.Model.Rng

namespace Xrfmv.Rng
open Xrfmv.Gen.Rng

/-- Two RNG states look the same to every draw site that reads a generator in `G`. -/
def AgreeOn (G : List Gen) (a b : Rng) : Prop := ∀ gen ∈ G, observe gen a = observe gen b

theorem observe_consume (gen gen' : Gen) (k : Nat) (a : Rng) :
    observe gen (consume gen' k a) =
      if gen = gen' then (observe gen a).map fun t => { t with count := t.count + k } else observe gen a := by
  cases gen <;> cases gen' <;> rfl

theorem AgreeOn.consume {G : List Gen} {a b : Rng} (h : AgreeOn G a b) (gen' : Gen) (k : Nat) :
    AgreeOn G (consume gen' k a) (consume gen' k b) :=
  fun gen hg => by rw [observe_consume, observe_consume, h gen hg]

/-- Draw sites that only read generators on which the two states agree see the same values, whatever their
number and order. -/
theorem run_congr {G : List Gen} (sites : List Gen) :
    ∀ {a b : Rng}, AgreeOn G a b → (∀ x ∈ sites, x ∈ G) → run sites a = run sites b := by
  induction sites with
  | nil => exact fun _ _ => rfl
  | cons x rest ih =>
    intro a b h hs
    obtain ⟨hx, hr⟩ := List.forall_mem_cons.1 hs
    rw [run, run, h x hx, ih (h.consume x 1) hr]

theorem observe_seedWith {L : List Gen} {gen : Gen} (hm : gen ∈ L) (hg : isGlobal gen = true) (s : Nat) (g : Rng) :
    observe gen (seedWith L s g) = some ⟨s, 0⟩ := by
  -- a global generator is re-seeded because it is in `L`; the other sources are excluded by `hg`
  cases gen <;> first | exact congrArg some (if_pos hm) | cases hg

theorem agreeOn_seedWith {L G : List Gen} (hG : ∀ gen ∈ G, gen ∈ L ∧ isGlobal gen = true) (s : Nat) (a b : Rng) :
    AgreeOn G (seedWith L s a) (seedWith L s b) := by
  intro gen hg
  rw [observe_seedWith (hG gen hg).1 (hG gen hg).2, observe_seedWith (hG gen hg).1 (hG gen hg).2]

end Xrfmv.Rng
