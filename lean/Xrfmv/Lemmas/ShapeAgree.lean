/-
Sizes are independent of the data: for every oracle meeting the sort / permutation contracts, the tree built by the
index-level model (`BuildIndex.build`) has the shape and the (pre-refill) leaf sizes of the size skeleton
(`BuildSizes.build`), and threads the same split counter.  Hence what C06 proves about sizes, depth and forced splits
holds for the trees C07 / C08 talk about; the first instance is `index_build_ok` (C07's `ok`; C08 has its own,
`RouteAgree.ok_of_consistent`, from per-node hypotheses).
-/
import Xrfmv.Lemmas.BuildIndex

namespace Xrfmv.ShapeAgree
open Xrfmv.Gen.Split Xrfmv.BuildIndex

inductive Shape
  | leaf (n : Nat)
  | node (l r : Shape)
  | bad
  deriving DecidableEq, Repr

/-- A leaf counts its centers and its moved samples: by `refill_perm` that is its size before the refill. -/
def ishape : ITree → Shape
  | .leaf _ c m => .leaf (c.length + m.length)
  | .node l r => .node (ishape l) (ishape r)
  | _ => .bad

def sshape : Xrfmv.BuildSizes.STree → Shape
  | .leaf n => .leaf n
  | .node _ l r => .node (sshape l) (sshape r)
  | _ => .bad

/-- Whether a construction succeeded can be read off its shape. -/
def Shape.ok : Shape → Bool
  | .leaf _ => true
  | .node l r => l.ok && r.ok
  | .bad => false

theorem ok_ishape : ∀ t : ITree, (ishape t).ok = t.ok
  | .node l r => by simp only [ishape, Shape.ok, ITree.ok, ok_ishape l, ok_ishape r]
  | .leaf .. | .assertFail | .outOfFuel => rfl

theorem ok_sshape : ∀ s : Xrfmv.BuildSizes.STree, (sshape s).ok = s.ok
  | .node _ l r => by simp only [sshape, Shape.ok, BuildSizes.STree.ok, ok_sshape l, ok_sshape r]
  | .leaf _ | .assertFail _ | .outOfFuel _ => rfl

/-- The size-skeleton configuration that corresponds to an index-level configuration and its overlap oracle. -/
def sizeCfg (cfg : Cfg) (O : Oracles) : Xrfmv.BuildSizes.Cfg :=
  { maxLeaf := cfg.maxLeaf, nsplits := cfg.nsplits, ov := O.ov }

/-- The simulation, for any overlap oracle (`counts` clamps it) and any requested number of splits. -/
theorem shapes_agree (cfg : Cfg) (O : Oracles) (hc : Contracts O)
    (fuel : Nat) (path : List Bool) (idx : List Nat) (isRoot : Bool) (count : Nat) :
    ishape (build cfg O fuel path idx isRoot count).1 =
      sshape (Xrfmv.BuildSizes.build (sizeCfg cfg O) fuel idx.length count).1 ∧
    (build cfg O fuel path idx isRoot count).2 =
      (Xrfmv.BuildSizes.build (sizeCfg cfg O) fuel idx.length count).2 := by
  fun_induction build cfg O fuel path idx isRoot count with
  | case1 => exact ⟨rfl, rfl⟩
  | case2 fuel path idx isRoot count n hleaf _ km =>
    have := (refill_perm cfg O path idx (hc.perm _ _)).length_eq
    rw [BuildSizes.build_leaf (sizeCfg cfg O) fuel _ count hleaf, ishape, ← List.length_append, this]
    exact ⟨rfl, rfl⟩
  | case3 fuel path idx isRoot count n hleaf =>
    rw [BuildSizes.build_leaf (sizeCfg cfg O) fuel _ count hleaf]
    exact ⟨rfl, rfl⟩
  | case4 fuel path idx isRoot count n hleaf count1 r sorted li ri hbad =>
    rw [(BuildSizes.build_node (sizeCfg cfg O) fuel _ count (Bool.not_eq_true _ ▸ hleaf)).trans
      (if_pos ((split_fails_iff idx sorted r (hc.sort path n)).mp hbad))]
    exact ⟨rfl, rfl⟩
  | case5 fuel path idx isRoot count n hleaf count1 r sorted li ri hgood lres rres ih1 ih2 =>
    have hl : li.length = _ := (child_lengths idx sorted r (hc.sort path n)).1
    have hr : ri.length = _ := (child_lengths idx sorted r (hc.sort path n)).2
    rw [(BuildSizes.build_node (sizeCfg cfg O) fuel _ count (Bool.not_eq_true _ ▸ hleaf)).trans
      (if_neg (hgood ∘ (split_fails_iff idx sorted r (hc.sort path n)).mpr))]
    rw [hl] at ih1
    rw [hr] at ih2
    -- the right child starts from the counter the left child returns; `ih1.2` says the two models return the same one
    have e : lres.2 = _ := ih1.2
    show ishape (.node lres.1 rres.1) = sshape (.node _ _ _) ∧ rres.2 = _
    exact ⟨congrArg₂ Shape.node ih1.1 (ih2.1.trans (by rw [e]; rfl)), ih2.2.trans (by rw [e]; rfl)⟩

end Xrfmv.ShapeAgree

namespace Xrfmv.BuildIndex
open Xrfmv.Gen.Split Xrfmv.ShapeAgree

/-- The overlap oracle leaves two unshared samples at every node that is split (C06's hypothesis, derived there from
`(1 - 2f)·max_leaf_size ≥ 4`). -/
def OvOk (cfg : Cfg) (O : Oracles) : Prop :=
  ∀ m : Nat, cfg.maxLeaf < m → ∃ o : Nat, O.ov m = (o : Int) ∧ o + 2 ≤ m

theorem index_build_ok (cfg : Cfg) (O : Oracles) (hns : cfg.nsplits = none) (hc : Contracts O) (hov : OvOk cfg O)
    (fuel : Nat) (path : List Bool) (idx : List Nat) (isRoot : Bool) (count : Nat) (hfuel : idx.length + 1 ≤ fuel) :
    (build cfg O fuel path idx isRoot count).1.ok = true := by
  rw [← ok_ishape, (shapes_agree cfg O hc fuel path idx isRoot count).1, ok_sshape]
  refine (BuildSizes.build_ok (sizeCfg cfg O) hns (fun m hm => ?_) fuel idx.length count hfuel).1
  obtain ⟨o, ho, h2⟩ := hov m hm
  show 0 ≤ O.ov m ∧ O.ov m + 2 ≤ (m : Int)
  omega

end Xrfmv.BuildIndex
