/-
"Strictly better in the declared direction": the one order notion that both selection loops compare scores with
(`RFM.fit`, C02/C03; `fit_temperature`, C10, whose `Tune.better` has the same body), with the three facts their
invariants need.  Kept free of `Gen.*`, so that neither loop's lemmas depend on the other's regenerated program.
The namespace is `Xrfmv.FitLoop` because C03's statements name the notion `FitLoop.better`.
-/
import Mathlib.Data.Real.Basic

namespace Xrfmv.FitLoop

/-- `a` is strictly better than `b` in the declared direction. -/
def better (maximize : Bool) (a b : ℝ) : Prop := if maximize then b < a else a < b

noncomputable instance (mx : Bool) (a b : ℝ) : Decidable (better mx a b) :=
  inferInstanceAs (Decidable (if mx then b < a else a < b))

theorem better_irrefl (mx : Bool) (a : ℝ) : ¬ better mx a a := by cases mx <;> exact lt_irrefl a

theorem better_asymm {mx : Bool} {a b : ℝ} (h : better mx a b) : ¬ better mx b a := by
  cases mx <;> exact lt_asymm h

/-- "Not better than" is the non-strict order of the direction, hence transitive. -/
theorem not_better_trans {mx : Bool} {a b c : ℝ} (hab : ¬ better mx a b) (hbc : ¬ better mx b c) :
    ¬ better mx a c := by
  cases mx
  · exact not_lt.2 ((not_lt.1 hbc).trans (not_lt.1 hab))
  · exact not_lt.2 ((not_lt.1 hab).trans (not_lt.1 hbc))

end Xrfmv.FitLoop
