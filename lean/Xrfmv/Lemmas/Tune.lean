/-
The temperature-tuning fold `Xrfmv.Tune.tune` over `EReal` scores (real scores, `±∞` initial best).  `Inv` is what holds
after a non-empty prefix of the candidates: the stored attribute comes from a candidate that no candidate of the prefix
beats, and score and results are the true ones.  The first candidate establishes it (any real beats `±∞`), each further
one extends it, whether accepted (better, or tied) or rejected.
-/
import Xrfmv.Model.Tune
import Xrfmv.Lemmas.RealInst
import Xrfmv.Lemmas.Better

namespace Xrfmv.Tune
open Xrfmv.Gen.Temp

/-- `a` strictly better than `b` in the metric direction. -/
def better (maximizing : Bool) (a b : ℝ) : Prop := if maximizing then b < a else a < b

variable (maximizing : Bool) (btv : ℝ) (s : Option ℝ → ℝ)

/-- The fold is run on real scores embedded in `EReal`. -/
noncomputable abbrev escore (s : Option ℝ → ℝ) : Option ℝ → EReal := fun a => ((s a : ℝ) : EReal)

/-- State after a non-empty prefix `p` of the candidates. -/
structure Inv (p : List ℝ) (st : TState EReal ℝ) : Prop where
  score : st.bestScore = ((s st.bestAttr : ℝ) : EReal)
  fromCand : ∃ c ∈ p, st.bestAttr = attrOf c
  optimal : ∀ c ∈ p, ¬ better maximizing (s (attrOf c)) (s st.bestAttr)
  results : st.results = p.map fun c => (c, ((s (attrOf c) : ℝ) : EReal))

/-- Every candidate `≤ 0` is evaluated, and stored, as hard routing.  The term follows the text of `Gen.Temp.attrOf`, which the
recipe emits from a constant (extract/gen_temp.py accepts one form of the accept body only). -/
theorem attrOf_of_nonpos {c : ℝ} (h : c ≤ 0) : attrOf c = none :=
  if_pos (decide_eq_true (h.trans_eq (by norm_num)))

theorem isBetter_coe (a b : ℝ) :
    isBetter maximizing ((a : ℝ) : EReal) ((b : ℝ) : EReal) = true ↔ FitLoop.better maximizing a b := by
  cases maximizing <;> simp [isBetter, FitLoop.better, EReal.coe_lt_coe_iff]

/-- Every real score is better than the initial one, `⊥` when maximising and `⊤` otherwise. -/
theorem isBetter_init (a : ℝ) :
    isBetter maximizing ((a : ℝ) : EReal) (initBestScore maximizing) = true := by
  cases maximizing <;> simp [isBetter, initBestScore, HasInf.posInf, HasInf.negInf]

theorem tie_coe (c a b : ℝ) : tieClause c btv ((a : ℝ) : EReal) ((b : ℝ) : EReal) = true ↔ c = btv ∧ a = b := by
  simp [tieClause, eq_comm (α := ℝ)]

theorem step_first (st0 : TState EReal ℝ) (c : ℝ)
    (h0 : st0.bestScore = initBestScore maximizing) (hr : st0.results = []) :
    Inv maximizing s [c] (step maximizing btv (escore s) st0 c) := by
  simp only [step, h0, isBetter_init, Bool.true_or, if_true, hr, List.nil_append]
  exact { score := rfl, fromCand := ⟨c, List.mem_singleton_self c, rfl⟩,
          -- `Tune.better` has the same body as `FitLoop.better`, so its lemmas apply
          optimal := List.forall_mem_singleton.2 (FitLoop.better_irrefl _ _), results := rfl }

/-- Accepting `c` (strictly better than the incumbent, or tied with it) or keeping the incumbent (`c` not better)
extends the invariant by `c`. -/
theorem step_inv (p : List ℝ) (st : TState EReal ℝ) (c : ℝ) (h : Inv maximizing s p st) :
    Inv maximizing s (p ++ [c]) (step maximizing btv (escore s) st c) := by
  obtain ⟨hs, ⟨c0, hc0, hattr⟩, hopt, hres⟩ := h
  have hres' : (st.results ++ [(c, escore s (attrOf c))]) = (p ++ [c]).map fun c => (c, ((s (attrOf c) : ℝ) : EReal)) := by
    rw [hres, List.map_append]; rfl
  rw [step]; dsimp only
  split
  · rename_i hacc
    rw [hs] at hacc
    have hinc : ¬ FitLoop.better maximizing (s st.bestAttr) (s (attrOf c)) := by
      rcases Bool.or_eq_true_iff.mp hacc with hb | ht
      · exact FitLoop.better_asymm ((isBetter_coe maximizing _ _).mp hb)
      · rw [((tie_coe btv c _ _).1 ht).2]; exact FitLoop.better_irrefl _ _
    exact { score := rfl, fromCand := ⟨c, List.mem_append_right _ (List.mem_singleton_self c), rfl⟩,
            optimal := List.forall_mem_append.2 ⟨fun c' h1 => FitLoop.not_better_trans (hopt c' h1) hinc,
              List.forall_mem_singleton.2 (FitLoop.better_irrefl _ _)⟩,
            results := hres' }
  · rename_i hrej
    rw [hs] at hrej
    exact { score := hs, fromCand := ⟨c0, List.mem_append_left _ hc0, hattr⟩,
            optimal := List.forall_mem_append.2 ⟨hopt, List.forall_mem_singleton.2 fun hb =>
              hrej (Bool.or_eq_true_iff.2 (Or.inl ((isBetter_coe maximizing _ _).mpr hb)))⟩,
            results := hres' }

theorem tune_spec (current : Option ℝ) (cands : List ℝ) (hne : cands ≠ []) :
    Inv maximizing s cands (tune maximizing current cands (escore s)) := by
  induction cands using List.reverseRecOn with
  | nil => exact absurd rfl hne
  | append_singleton p c ih =>
    rw [tune, List.foldl_append]
    by_cases hp : p = []
    · subst hp; exact step_first maximizing _ s _ c rfl rfl
    · exact step_inv maximizing _ s p _ c (ih hp)

end Xrfmv.Tune
