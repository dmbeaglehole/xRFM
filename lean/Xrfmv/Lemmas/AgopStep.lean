/-
C19: the concrete AGOP step (`Model/AgopStep.lean`) is scale covariant where the coincidence masks of the gradients fire
alike at both scales (`MaskGuard`): the hypothesis `hO` of `Props/C19.iterate_scale_on` (the contract `AgopScaleCovariant`
asks the same of every `K T X A`, without guards).  Gradient homogeneity (`Lemmas/GradScale.lean`) + scale freedom of the
max-normalised AGOP (`Lemmas/Agop.lean`).
-/
import Xrfmv.Model.AgopStep
import Xrfmv.Lemmas.GradScale
import Xrfmv.Lemmas.Agop
import Xrfmv.Lemmas.Median

namespace Xrfmv.AgopStep
open Xrfmv
open Xrfmv.Kernel (Spec Transform)

@[simp] theorem gradKind_withL (K : Spec ℝ) (L : ℝ) : gradKind (K.withL L) = gradKind K := by cases K <;> rfl

theorem gradParams_withL (e : ℝ) (K : Spec ℝ) (L : ℝ) : gradParams e (K.withL L) = (gradParams e K).withL L := by
  cases K <;> rfl

@[simp] theorem gradParams_L (e : ℝ) (K : Spec ℝ) : (gradParams e K).L = K.L := by cases K <;> rfl
@[simp] theorem gradParams_eps (e : ℝ) (K : Spec ℝ) : (gradParams e K).eps = e := by cases K <;> rfl

theorem scaleOK_of_paramOK (e : ℝ) (K : Spec ℝ) (hK : Median.ParamOK K) (hL : 0 ≤ K.L) :
    Grad.ScaleOK (gradKind K) (gradParams e K) := by
  refine ⟨by rw [gradParams_L]; exact hL, ?_⟩
  cases K with
  | laplace q L => trivial
  | light q L => trivial
  | product q L => exact (show (0 : ℝ) < q from hK).ne'
  | lpq p q L => exact (show (0 : ℝ) < p from hK).ne'
  | sumPower q L c' P => exact hK

theorem head_length_smul (c : ℝ) (X : List (List ℝ)) :
    ((X.map (Median.smul c)).head?.map List.length).getD 0 = (X.head?.map List.length).getD 0 := by
  cases X with
  | nil => rfl
  | cons x X => simp

/-- The mask guard of the AGOP step: for every pair of centers the coincidence mask of the kernel fires at scale `c`
exactly when it fires at scale 1 (true whenever all distinct centers are at least `max(eps, eps/c)` apart).  The distances
are those of the gradient model (`Grad.maskQ` after `Grad.applyT (toGradT T)`), not `Kernel.dist K T`: no lemma relates the two. -/
def MaskGuard (c gradEps : ℝ) (K : Spec ℝ) (T : Transform ℝ) (X : List (List ℝ)) : Prop :=
  Grad.AllMaskStable c (gradKind K) (gradParams gradEps K) (toGradT T) X X

theorem normAgop_scale {c : ℝ} (hc : 0 < c) (gradEps : ℝ) (K : Spec ℝ) (hK : Median.ParamOK K) (hL : 0 ≤ K.L)
    (T : Transform ℝ) (X A : List (List ℝ)) (hm : MaskGuard c gradEps K T X) :
    normAgop gradEps 0 (K.withL (c * K.L)) T (X.map (Median.smul c)) A = normAgop gradEps 0 K T X A := by
  unfold normAgop
  simp only [head_length_smul, gradKind_withL, gradParams_withL]
  have h := Grad.fgrad_scale hc (gradKind K) (gradParams gradEps K) (scaleOK_of_paramOK gradEps K hK hL) (toGradT T)
    X X (transpose A) hm
  rw [gradParams_L] at h
  rw [h, ← List.map_flatten]
  exact Agop.normalise_agopFull_scale _ _ (inv_ne_zero hc.ne')

theorem agopStep_scale {c : ℝ} (hc : 0 < c) (gradEps : ℝ) (root : List (List ℝ) → Transform ℝ)
    (K : Spec ℝ) (hK : Median.ParamOK K) (hL : 0 ≤ K.L) (T : Transform ℝ) (X A : List (List ℝ))
    (hm : MaskGuard c gradEps K T X) :
    agopStep gradEps 0 root (K.withL (c * K.L)) T (X.map (Median.smul c)) A = agopStep gradEps 0 root K T X A :=
  congrArg root (normAgop_scale hc gradEps K hK hL T X A hm)

/-- Both sides are false. -/
theorem lt_iff_mul_lt_of_nonpos {c m e : ℝ} (hc : 0 < c) (hm : 0 ≤ m) (he : e ≤ 0) : m < e ↔ c * m < e :=
  ⟨fun h => absurd h (not_lt.2 (he.trans hm)), fun h => absurd h (not_lt.2 (he.trans (mul_nonneg hc.le hm)))⟩

/-- With `gradEps = 0` no mask ever fires, at any scale: the guard is satisfiable for every data set. -/
theorem maskGuard_zero {c : ℝ} (hc : 0 < c) (K : Spec ℝ) (T : Transform ℝ) (X : List (List ℝ)) :
    MaskGuard c 0 K T X := by
  intro x _ z _
  -- for each kernel the guard is `m < 0 ↔ c * m < 0` with `m` a norm
  cases K
  case light => exact lt_iff_mul_lt_of_nonpos hc (Real.sqrt_nonneg _) le_rfl
  all_goals exact lt_iff_mul_lt_of_nonpos hc (Grad.maskQ_nonneg _ _ _ _) le_rfl

end Xrfmv.AgopStep
