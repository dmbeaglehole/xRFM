/-
Helper lemmas about `Xrfmv.Median` at `ℝ`: sorting commutes with strictly monotone maps; the pairwise distances under a
map; the parameter guard of the scale laws; what the iterates of the adaptive fit loop are.
-/
import Xrfmv.Model.Median
import Xrfmv.Lemmas.Kernel

namespace Xrfmv.Median
open Xrfmv Xrfmv.Kernel

theorem sort_map_strictMono {f : ℝ → ℝ} (hf : StrictMono f) (l : List ℝ) :
    sort (l.map f) = (sort l).map f := by
  unfold sort
  symm
  apply List.map_mergeSort
  intro a _ b _
  simp only [hf.le_iff_le]

theorem lowerMedian_mem {l : List ℝ} {m : ℝ} (h : lowerMedian l = some m) : m ∈ l := by
  unfold lowerMedian sort at h
  exact List.mem_mergeSort.mp (List.mem_of_getElem? h)

theorem lowerMedian_isSome {l : List ℝ} (h : l ≠ []) : (lowerMedian l).isSome = true := by
  rw [lowerMedian, isSome_getElem?, sort, List.length_mergeSort]
  exact (Nat.div_le_self _ 2).trans_lt (Nat.sub_lt (List.length_pos_iff.mpr h) Nat.one_pos)

theorem pairDists_map {β : Type} (d d' : β → β → ℝ) (f : β → β) (c : ℝ)
    (h : ∀ x z, d' (f x) (f z) = c * d x z) (pts : List β) :
    pairDists d' (pts.map f) = (pairDists d pts).map (c * ·) := by
  -- both maps pushed through `zipIdx`, `flatMap`, `filterMap` down to the `if`; there `h` applies under the `some`
  simp only [pairDists, List.zipIdx_map, List.flatMap_map, List.filterMap_map, List.map_flatMap,
    List.map_filterMap]
  refine List.flatMap_congr fun xi _ => List.filterMap_congr fun zj _ => ?_
  simp only [Function.comp, Prod.map, id, h, apply_ite (Option.map _), Option.map_none, Option.map_some]

theorem mem_pairDists {β : Type} {d : β → β → ℝ} {pts : List β} {t : ℝ} (h : t ∈ pairDists d pts) :
    ∃ x z, t = d x z := by
  obtain ⟨xi, _, h⟩ := List.mem_flatMap.1 h
  obtain ⟨zj, _, hz⟩ := List.mem_filterMap.1 h
  split at hz
  · cases hz
  · exact ⟨xi.1, zj.1, (Option.some.inj hz).symm⟩

/-- What the scale laws need of the parameters (the bandwidth is not involved): `q > 0` for the
product kernel, `p > 0` for Lpq; the sum-power kernel is excluded (it has no adaptive mode). -/
def ParamOK : Spec ℝ → Prop
  | .laplace _ _ | .light _ _ => True
  | .product q _ => 0 < q
  | .lpq p _ _ => 0 < p
  | .sumPower .. => False

theorem paramOK_withL {K : Spec ℝ} (L : ℝ) (h : ParamOK K) : ParamOK (K.withL L) := by
  cases K <;> exact h

@[simp] theorem withL_L (K : Spec ℝ) (L : ℝ) : (K.withL L).L = L := by cases K <;> rfl
@[simp] theorem withL_q (K : Spec ℝ) (L : ℝ) : (K.withL L).q = K.q := by cases K <;> rfl
@[simp] theorem withL_withL (K : Spec ℝ) (L L' : ℝ) : (K.withL L).withL L' = K.withL L' := by cases K <;> rfl
@[simp] theorem dist_withL (K : Spec ℝ) (L : ℝ) (T : Transform ℝ) (x z : List ℝ) :
    Kernel.dist (K.withL L) T x z = Kernel.dist K T x z := by cases K <;> rfl

theorem entry_eq_lap_dist_of_paramOK {K : Spec ℝ} (h : ParamOK K) (T : Transform ℝ) (x z : List ℝ) :
    entry K T x z = lap K.q K.L (Kernel.dist K T x z) := by
  refine entry_eq_lap_dist K ?_ (fun q L e => ?_) T x z
  · cases K <;> first | rfl | exact h.elim
  · subst e; exact h

abbrev smul (c : ℝ) (x : List ℝ) : List ℝ := x.map (c * ·)

/-- the iterate one obtains on inputs scaled by `c` -/
def scaleIt (c : ℝ) (it : Iterate ℝ) : Iterate ℝ :=
  { K := it.K.withL (c * it.K.L), T := it.T, alpha := it.alpha, med := c * it.med }

/-- Contract of the AGOP step (C04/C14, not proved here): gradients scale by `1/c`, the AGOP by `1/c²`,
and the normalised AGOP and its root are unchanged (the `1e-30` in the normalisation idealised to 0). -/
def AgopScaleCovariant (O : Oracles ℝ) : Prop :=
  ∀ (c : ℝ), 0 < c → ∀ (K : Spec ℝ) (T : Transform ℝ) (X A : List (List ℝ)),
    O.upd (K.withL (c * K.L)) T (X.map (smul c)) A = O.upd K T X A

/-- The `< eps → 1` guard of `_adapt_bandwidth` does not fire at either scale, up to iterate `i`. -/
def GuardOff (eps c : ℝ) (O : Oracles ℝ) (K0 : Spec ℝ) (X Y : List (List ℝ)) (i : ℕ) : Prop :=
  ∀ j ≤ i, ∀ it, iterate O eps K0 X Y j = some it → eps ≤ it.med ∧ eps ≤ c * it.med

/-- With the guard off the adapted bandwidth is `base × median`: the one lemma that unfolds `Gen.Bandwidth`. -/
theorem adapted_of_le {eps m : ℝ} (base : ℝ) (h : eps ≤ m) :
    Xrfmv.Gen.Bandwidth.adapted base (Xrfmv.Gen.Bandwidth.guardMult eps m) = base * m := by
  -- `h` refutes one branch, the other is `base * m` (goes through for `mult * base`, the guard negated, flipped, as `eps ≤ m`)
  unfold Gen.Bandwidth.adapted Gen.Bandwidth.guardMult
  split_ifs <;> linarith

theorem adapted_scale {eps m c : ℝ} (base : ℝ) (h1 : eps ≤ m) (h2 : eps ≤ c * m) :
    Xrfmv.Gen.Bandwidth.adapted base (Xrfmv.Gen.Bandwidth.guardMult eps (c * m)) =
      c * Xrfmv.Gen.Bandwidth.adapted base (Xrfmv.Gen.Bandwidth.guardMult eps m) := by
  rw [adapted_of_le base h1, adapted_of_le base h2, mul_left_comm]

section
variable {O : Oracles ℝ} {eps : ℝ} {K0 : Spec ℝ} {X Y : List (List ℝ)} {T : Transform ℝ} {i : ℕ} {it : Iterate ℝ}

theorem solveStep_eq_some (h : solveStep O eps K0 X Y T = some it) :
    lowerMedian (pairDists (Kernel.dist K0 T) X) = some it.med ∧
      it.K = K0.withL (Xrfmv.Gen.Bandwidth.adapted K0.L (Xrfmv.Gen.Bandwidth.guardMult eps it.med)) := by
  obtain ⟨m, hm, rfl⟩ := Option.map_eq_some_iff.1 h
  exact ⟨hm, rfl⟩

theorem solveStep_kernel_ok (heps : 0 ≤ eps) (hK : ParamOK K0) (hL : 0 ≤ K0.L)
    (h : solveStep O eps K0 X Y T = some it) (hm : eps ≤ it.med) : ParamOK it.K ∧ 0 ≤ it.K.L := by
  rw [(solveStep_eq_some h).2, withL_L, adapted_of_le _ hm]
  exact ⟨paramOK_withL _ hK, mul_nonneg hL (heps.trans hm)⟩

theorem exists_solveStep_of_iterate (h : iterate O eps K0 X Y i = some it) : ∃ T, solveStep O eps K0 X Y T = some it := by
  cases i with
  | zero => exact ⟨_, h⟩
  | succ i =>
    obtain ⟨it0, _, h'⟩ := Option.bind_eq_some_iff.1 h
    exact ⟨_, h'⟩

theorem iterate_med_nonneg (h : iterate O eps K0 X Y i = some it) : 0 ≤ it.med := by
  obtain ⟨T, hs⟩ := exists_solveStep_of_iterate h
  obtain ⟨x, z, hxz⟩ := mem_pairDists (lowerMedian_mem (solveStep_eq_some hs).1)
  rw [hxz]; exact dist_nonneg K0 T x z

theorem iterate_kernel_ok (heps : 0 ≤ eps) (hK : ParamOK K0) (hL : 0 ≤ K0.L) (h : iterate O eps K0 X Y i = some it)
    (hm : eps ≤ it.med) : ParamOK it.K ∧ 0 ≤ it.K.L :=
  (exists_solveStep_of_iterate h).elim fun _ hs => solveStep_kernel_ok heps hK hL hs hm

end

/-- With `eps = 0` the guard never fires: the hypothesis `GuardOff` is satisfiable for every data set. -/
theorem guardOff_zero {c : ℝ} (hc : 0 < c) (O : Oracles ℝ) (K0 : Spec ℝ) (X Y : List (List ℝ)) (i : ℕ) :
    GuardOff 0 c O K0 X Y i := by
  intro j _ it h
  have := iterate_med_nonneg h
  exact ⟨this, mul_nonneg hc.le this⟩

end Xrfmv.Median
