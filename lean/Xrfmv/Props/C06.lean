/-
C06 — Tree construction terminates with bounded, balanced leaves.

Model: `Xrfmv.BuildSizes.build`, the size skeleton of `xRFM._build_tree` over the regenerated
`Gen.Split` (integer code of `_get_balanced_split`, its slices and masks, the leaf test).  Sizes are
independent of the data (the split is rank based: `build` takes no data at all), which is why ties,
duplicates or constant columns cannot prevent termination.  The only float expression,
`r = int(round(2 * overlap_fraction * n))`, is the oracle `cfg.ov`; `overlap_hypothesis` derives what
the theorems need from `(1 - 2f) * max_leaf_size ≥ 4` and `|r - 2fn| < 1` (the latter is checked
exhaustively against Python by the correspondence).
-/
import Xrfmv.Lemmas.BuildSizes
import Xrfmv.Lemmas.ShapeAgree
import Mathlib.Data.Real.Basic
import Mathlib.Tactic.Linarith

namespace Xrfmv.Props.C06
open Xrfmv.BuildSizes Xrfmv.Gen.Split

/-- **C06 (split sizes)** With `o = r` samples in the overlap band (`0 ≤ r`, `r + 2 ≤ n`) the left child
gets the ceil half of the other `n - o` samples plus the band, the right child the floor half plus the
band; both are non-empty, differ by at most one, and are strictly smaller than the node. -/
theorem split_sizes (n r : Int) (hr0 : 0 ≤ r) (hr : r + 2 ≤ n) :
    leftSize n r = (n - r + 1) / 2 + r ∧ rightSize n r = (n - r) / 2 + r ∧
    1 ≤ rightSize n r ∧ rightSize n r ≤ leftSize n r ∧ leftSize n r - rightSize n r ≤ 1 ∧
    leftSize n r < n ∧ leftSize n r + rightSize n r = n + r := by
  have h := sizes_spec n r (by omega)
  rw [clampO_of_le n r hr0 (by omega)] at h
  omega

/-- **C06 (termination, leaf bound)** Without a forced split count, for every `n`, every
`max_leaf_size` and every overlap oracle that leaves two unshared samples at each split node, the
construction finishes within `n + 1` levels, no assertion of the split fails, and every leaf is
trained on at most `max_leaf_size` samples. -/
theorem terminates_leaves_bounded (cfg : Cfg) (hns : cfg.nsplits = none) (hov : OvOk cfg) (n : Nat) :
    (build cfg (n + 1) n 0).1.ok = true ∧ ∀ k ∈ (build cfg (n + 1) n 0).1.leaves, k ≤ cfg.maxLeaf :=
  build_ok cfg hns hov (n + 1) n 0 le_rfl

/-- **C06 (depth)** With zero overlap and no forced split count no leaf is deeper than any `k` with
`n ≤ max_leaf_size · 2^k`, i.e. than `⌈log₂(n / max_leaf_size)⌉`. -/
theorem depth_bound (cfg : Cfg) (hns : cfg.nsplits = none) (hz : ∀ m, cfg.ov m = 0) (hL : 2 ≤ cfg.maxLeaf)
    (n k : Nat) (hn : n ≤ cfg.maxLeaf * 2 ^ k) :
    (build cfg (n + 1) n 0).1.depth ≤ k :=
  depth_le cfg hns hz k (n + 1) n 0 hn

/-- **C06 (forced splits)** A requested minimum number of splits `s` is honoured whenever construction
succeeds (it fails only if a forced split hits a node that cannot be split into two non-empty parts). -/
theorem min_splits_honoured (cfg : Cfg) (s : Nat) (hns : cfg.nsplits = some s) (fuel n : Nat)
    (hok : (build cfg fuel n 0).1.ok = true) : s ≤ (build cfg fuel n 0).1.splits := by
  have h1 := count_ge_nsplits cfg s hns fuel n 0 hok
  rwa [count_eq_add_splits cfg fuel n 0 hok, Nat.zero_add] at h1

/-- **C06 (the float hypothesis)** If the overlap fraction `f ≥ 0` satisfies
`(1 - 2f) · max_leaf_size ≥ 4` and the rounded band `r` is within `1` of `2fn`, then every node
larger than `max_leaf_size` keeps `r ≥ 0` and at least two unshared samples. -/
theorem overlap_hypothesis (f : ℝ) (L n : ℕ) (r : ℤ) (hf : 0 ≤ f) (hL : (1 - 2 * f) * (L : ℝ) ≥ 4)
    (hn : L < n) (hr : |(r : ℝ) - 2 * f * n| < 1) : 0 ≤ r ∧ r + 2 ≤ (n : ℤ) := by
  obtain ⟨h1, h2⟩ := abs_lt.mp hr
  constructor
  · -- `2fn ≥ 0`, so `r > 2fn - 1 ≥ -1`
    have hfn : 0 ≤ 2 * f * n := mul_nonneg (mul_nonneg zero_le_two hf) (Nat.cast_nonneg n)
    have : (-1 : ℤ) < r := by exact_mod_cast lt_of_lt_of_le h1 (sub_le_self _ hfn)
    omega
  · -- `1 - 2f ≥ 0` (else `(1 - 2f)·L ≤ 0`), so `n - 2fn = (1 - 2f)·n ≥ (1 - 2f)·L ≥ 4` and `r < 2fn + 1 ≤ n - 3`
    have h12 : 0 ≤ 1 - 2 * f := by
      by_contra h
      exact absurd (hL.le.trans (mul_nonpos_of_nonpos_of_nonneg (not_le.mp h).le (Nat.cast_nonneg L))) (by norm_num)
    have hmono := mul_le_mul_of_nonneg_left (Nat.cast_le (α := ℝ).mpr hn.le) h12
    have : (r : ℝ) + 3 < n := by linarith
    have : (r : ℤ) + 3 < n := by exact_mod_cast this
    omega

/-- Non-vacuity: `max_leaf_size = 8`, overlap fraction 1/8 (band `n/4`) satisfies the oracle
hypothesis, and the construction of a 100-sample tree is covered. -/
example : OvOk { maxLeaf := 8, nsplits := none, ov := fun m => (m : Int) / 4 } := by
  intro m hm
  simp only at hm ⊢
  omega

/-- **C06 (sizes are independent of the data)** Whatever the data — that is, for every answer of the sort and
permutation oracles that meets their contracts (ties, duplicates, constant columns included) — the tree built over
sample indices has exactly the shape and the leaf sizes of the size skeleton, and consumes the same number of splits.
All statements above therefore hold for the index-level trees of C07 / C08. -/
theorem sizes_independent_of_data (cfg : Xrfmv.BuildIndex.Cfg) (O : Xrfmv.BuildIndex.Oracles)
    (hc : Xrfmv.BuildIndex.Contracts O) (hov : ∀ m : Nat, ∃ o : Nat, O.ov m = (o : Int) ∧ o ≤ m)
    (fuel : Nat) (path : List Bool) (idx : List Nat) (isRoot : Bool) (count : Nat) :
    Xrfmv.ShapeAgree.ishape (Xrfmv.BuildIndex.build cfg O fuel path idx isRoot count).1 =
      Xrfmv.ShapeAgree.sshape (build (Xrfmv.ShapeAgree.sizeCfg cfg O) fuel idx.length count).1 ∧
    (Xrfmv.BuildIndex.build cfg O fuel path idx isRoot count).2 =
      (build (Xrfmv.ShapeAgree.sizeCfg cfg O) fuel idx.length count).2 :=
  Xrfmv.ShapeAgree.shapes_agree cfg O hc fuel path idx isRoot count

/-- Two data sets of the same size give trees of the same shape and leaf sizes. -/
theorem same_size_same_shape (cfg : Xrfmv.BuildIndex.Cfg) (O O' : Xrfmv.BuildIndex.Oracles)
    (hc : Xrfmv.BuildIndex.Contracts O) (hc' : Xrfmv.BuildIndex.Contracts O') (hsame : O.ov = O'.ov)
    (hov : ∀ m : Nat, ∃ o : Nat, O.ov m = (o : Int) ∧ o ≤ m)
    (fuel : Nat) (idx idx' : List Nat) (hlen : idx.length = idx'.length) :
    Xrfmv.ShapeAgree.ishape (Xrfmv.BuildIndex.build cfg O fuel [] idx true 0).1 =
      Xrfmv.ShapeAgree.ishape (Xrfmv.BuildIndex.build cfg O' fuel [] idx' true 0).1 := by
  rw [(Xrfmv.ShapeAgree.shapes_agree cfg O hc fuel [] idx true 0).1,
    (Xrfmv.ShapeAgree.shapes_agree cfg O' hc' fuel [] idx' true 0).1, hlen]
  simp [Xrfmv.ShapeAgree.sizeCfg, hsame]

end Xrfmv.Props.C06
