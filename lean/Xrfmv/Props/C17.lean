/-
C17 — Fitting is reproducible and independent of object history.

This property is decided mostly by its correspondence (harness/props/c17.py: bit-exact predictions
after 0…10⁴ draws consumed from each global generator before construction, and fresh vs. re-fitted objects).  The
theorems are protocol-level and thin:

(a) `all_sites_seeded` (by `decide` over the REGENERATED inventory `Gen.Rng.draws`/`Gen.Rng.seeds`, extract/gen_rng.py):
    every random-draw call site of the library reads a process-global generator that `xRFM.__init__` seeds from
    `random_state` — no entropy source, no explicit `torch.Generator`, no re-seeding inside the library.
    `seed_forgets_history`: in the explicit-state RNG model (generator state = (seed, number of draws since); a draw may
    depend on all of it) the values seen by ANY sequence of the inventoried draw sites after `seedAll s` do not depend on
    the state before seeding — in particular not on `consume gen k`.  What is thin: that torch's generators really are
    functions of (seed, draws) and that the inventory's patterns catch every draw (the pass's rules are in gen_rng.py).
(b) `refit_eq_fresh`: in the record model of `xRFM.fit` (`Model/FitObj.lean`: the rest of `fit` is an ARBITRARY function of
    the whole object after the entry block, of the data and of the RNG state) an object with any history of earlier fits of
    the same task type and a fresh object of the same constructor configuration produce the same fitted object, hence the same
    `predictView`.  Which attributes the entry block re-initialises is the regenerated `Gen.FitObj.facts`
    (extract/gen_fitobj.py): removing `self.trees = []` or the `split_temperature` reset from the source flips a fact to
    `false` and `fit_facts_ok` (a `decide`) fails.  What is thin: the seven-field record is hand-written
    (`unmodelledLearnedReads = []` checks that no other attribute is both assigned and read in `fit`'s call graph), state held
    outside the object (module globals, the shared `rfm_params` dict, torch thread count) is not modelled.
-/
import Xrfmv.Lemmas.Rng
import Xrfmv.Lemmas.FitObj

namespace Xrfmv.Props.C17
open Xrfmv.Gen.Rng
open Xrfmv.Rng
open Xrfmv.FitObj
open Xrfmv.Gen.FitObj (facts unmodelledLearnedReads rhsLearnedLoads)

/-- **C17(a), inventory** Every random-draw call site on the covered paths is a plain draw from a process-global CPU
generator that `random_state` seeds: no site reads an entropy source or an explicitly constructed generator, and the
library never re-seeds behind the caller's back. -/
theorem all_sites_seeded :
    ∀ d ∈ draws, d.2.2.2.2 ∈ seeds ∧ isGlobal d.2.2.2.2 = true ∧ d.2.2.2.1 = "draw" := by
  decide +kernel

/-- **C17(a)** After `xRFM(random_state = s)` the values observed by any sequence (any number, any order) of the
library's draw sites are the same for every two prior RNG states … -/
theorem seed_forgets_state (s : Nat) (g g' : Rng) (sites : List Gen) (hs : ∀ x ∈ sites, x ∈ siteGens) :
    run sites (seedAll s g) = run sites (seedAll s g') := by
  -- through `AgreeOn siteGens`, not `seedAll s g = seedAll s g'`: only the generators that draw sites read need be seeded
  have hG : ∀ gen ∈ siteGens, gen ∈ seeds ∧ isGlobal gen = true := by
    intro gen hg
    obtain ⟨d, hd, rfl⟩ := List.mem_map.1 hg
    exact ⟨(all_sites_seeded d hd).1, (all_sites_seeded d hd).2.1⟩
  exact run_congr sites (agreeOn_seedWith hG s g g') hs

/-- … in particular seeding forgets how much randomness was consumed before, from whichever generator:
`(consume gen k g).seedAll s` and `g.seedAll s` are indistinguishable to the library. -/
theorem seed_forgets_history (s k : Nat) (gen : Gen) (g : Rng) (sites : List Gen) (hs : ∀ x ∈ sites, x ∈ siteGens) :
    run sites (seedAll s (consume gen k g)) = run sites (seedAll s g) :=
  seed_forgets_state s (consume gen k g) g sites hs

/-- Non-vacuity: the refill permutation, the subset permutation and two Gaussian projections drawn after seeding with 7
see the states (7,0), (7,1), (7,2), (7,3) of torch's generator — whether or not 10⁴ values were drawn from it before. -/
example : run [.torchGlobal, .torchGlobal, .torchGlobal, .torchGlobal]
      (seedAll 7 (consume .torchGlobal 10000 ⟨⟨1, 5⟩, ⟨2, 6⟩, ⟨3, 7⟩⟩))
    = [some ⟨7, 0⟩, some ⟨7, 1⟩, some ⟨7, 2⟩, some ⟨7, 3⟩] := by decide

/-- **C17(b), source facts** On the current source, `fit` re-initialises (or never reads) every learned attribute before
use: all ten facts of the regenerated `Gen.FitObj.facts` hold, no attribute outside the model is both assigned and read
in `fit`'s call graph, and the right-hand sides of the entry assignments read learned attributes only right after
assigning them. -/
theorem fit_facts_ok :
    factsOk facts = true ∧ unmodelledLearnedReads = [] ∧
    (∀ p ∈ rhsLearnedLoads, p ∈ [("extra_rfm_params_", "class_converter_"), ("class_converter_", "n_classes_")]) := by
  decide +kernel

/-- **C17(b)** Two objects of equal constructor configuration — one fresh or with ANY history of earlier fits, the other
too — fitted on the same data of the same task type from the same RNG state end up with the same `predictView`
(indeed the same object), for every tree-building / tuning procedure reading anything on the entry object. -/
theorem refit_eq_fresh (dv : Derive) (L : Learner) (cfg : Cfg) (D : Data) (r : Rng)
    (hist₁ hist₂ : List (Data × Rng))
    (h₁ : ∀ h ∈ hist₁, h.1.isClass = D.isClass) (h₂ : ∀ h ∈ hist₂, h.1.isClass = D.isClass) :
    predictView D.isClass (fitObj facts dv L (afterHistory facts dv L cfg hist₁) D r) =
    predictView D.isClass (fitObj facts dv L (afterHistory facts dv L cfg hist₂) D r) := by
  have hF := fit_facts_ok.1
  rw [fitObj_eq dv L hF (inv_afterHistory dv L hF cfg D.isClass hist₁ h₁)
        (inv_afterHistory dv L hF cfg D.isClass hist₂ h₂) r]

/-- The form in the property's words: re-fitted (after `hist`) versus fresh (`hist = []`). -/
theorem refit_eq_fresh_after_history (dv : Derive) (L : Learner) (cfg : Cfg) (D : Data) (r : Rng) (hist : List (Data × Rng))
    (h : ∀ x ∈ hist, x.1.isClass = D.isClass) :
    predictView D.isClass (fitObj facts dv L (afterHistory facts dv L cfg hist) D r) =
    predictView D.isClass (fitObj facts dv L (fresh cfg) D r) :=
  refit_eq_fresh dv L cfg D r hist [] h (fun _ hx => by cases hx)

/-- The fact `tempResetIfTuning` is necessary: with the `split_temperature` reset missing, a tuner whose tie rule prefers the
incumbent returns different temperatures for a re-fitted and a fresh object. -/
example :
    let F := { facts with tempResetIfTuning := false }
    let dv : Derive := ⟨fun _ _ => 0, fun _ _ => 0, fun _ _ => 0, fun _ => 0, fun _ => 0⟩
    let L : Learner := ⟨fun _ D _ => (D.id, true), fun e _ _ => e.splitTemperature⟩   -- all candidates tie: keep incumbent
    let cfg : Cfg := ⟨true, none, none, 0⟩
    let D : Data := ⟨false, 1⟩
    let r : Rng := ⟨⟨0, 0⟩, ⟨0, 0⟩, ⟨0, 0⟩⟩
    let earlier := { (fitObj F dv L (fresh cfg) ⟨false, 2⟩ r) with splitTemperature := some 5 }  -- an earlier fit tuned to 5
    predictView false (fitObj F dv L earlier D r) ≠ predictView false (fitObj F dv L (fresh cfg) D r) := by
  decide

end Xrfmv.Props.C17
