/-
C19 — Adaptive bandwidth follows the median heuristic and gives scale invariance.

Model: `Xrfmv.Median` (`Model/Median.lean`): `lowerMedian` = `sorted[(n−1)/2]` (what `torch.median`
returns), `pairDists` = the off-diagonal distance list, `adapt` = `base × median` with the code's
`< eps → 1` guard, `solveStep`/`iterate` = `RFM.fit_predictor`/`RFM.fit` in adaptive mode with the
linear solve and the AGOP step as oracles; kernels and distances are those of `Xrfmv.Kernel` (C05).
Everything at `ℝ`, for every dimension, number of points and (for the loop) number of iterations.

Proved: the scale laws of the median, the distances, the adapted bandwidth, every Laplace-family kernel value and the
whole Gram matrix; then the fit loop: the stored iterate itself scales (bandwidth and median by `c`, transform and
coefficients unchanged) given covariance of the AGOP step at the iterates the fit visits (`iterate_scale_on`), hence its
predictions are invariant (`predict_iterate_scale_on`).  The three fit theorems are cases of that: any AGOP step meeting
the contract `AgopScaleCovariant`, the first solve (`M = I`, no AGOP step), and the implementation's step where the
gradient masks fire alike at both scales (`AgopStep.agopStep_scale`).
The sum-power kernel is excluded: it has no adaptive mode (the code raises).
-/
import Xrfmv.Lemmas.Median
import Xrfmv.Lemmas.AgopStep

namespace Xrfmv.Props.C19
open Xrfmv Xrfmv.Kernel Xrfmv.Median

/-- **C19 median scale law.** `median (c·l) = c · median l` for `c > 0` (lower median by sorting;
mapping by a strictly monotone function commutes with the sort).  Same for the upper median, so any
convention between the two scales the same way. -/
theorem median_scale {c : ℝ} (hc : 0 < c) (l : List ℝ) :
    lowerMedian (l.map (c * ·)) = (lowerMedian l).map (c * ·) := by
  simp only [lowerMedian, List.length_map, sort_map_strictMono (strictMono_mul_left_of_pos hc), List.getElem?_map]

theorem upper_median_scale {c : ℝ} (hc : 0 < c) (l : List ℝ) :
    upperMedian (l.map (c * ·)) = (upperMedian l).map (c * ·) := by
  simp only [upperMedian, List.length_map, sort_map_strictMono (strictMono_mul_left_of_pos hc), List.getElem?_map]

/-- The median is defined exactly for non-empty lists, and is one of the entries. -/
theorem median_defined {l : List ℝ} (h : l ≠ []) : ∃ m, lowerMedian l = some m ∧ m ∈ l := by
  obtain ⟨m, hm⟩ := Option.isSome_iff_exists.mp (lowerMedian_isSome h)
  exact ⟨m, hm, lowerMedian_mem hm⟩

example : lowerMedian ([1, 2, 3, 4] : List ℝ) = some 2 ∧ upperMedian ([1, 2, 3, 4] : List ℝ) = some 3 := by
  have h : sort ([1, 2, 3, 4] : List ℝ) = [1, 2, 3, 4] := by
    refine List.mergeSort_of_pairwise ?_
    simp only [List.pairwise_cons, List.mem_cons, List.not_mem_nil, or_false, decide_eq_true_eq, forall_eq_or_imp,
      forall_eq, IsEmpty.forall_iff, implies_true, List.Pairwise.nil, and_true]
    norm_num
  rw [lowerMedian, upperMedian, h]
  exact ⟨rfl, rfl⟩

/-- **C19 distance scale law.** `‖T(cx) − T(cz)‖ = c ‖T(x) − T(z)‖` in the kernel's own norm
(`p = 2`, `q`, `p`; the `M`-quadratic form for the light kernel), any transform, `c > 0`. -/
theorem dist_scale {c : ℝ} (hc : 0 < c) (K : Spec ℝ) (hK : ParamOK K) (T : Transform ℝ) (x z : List ℝ) :
    Kernel.dist K T (smul c x) (smul c z) = c * Kernel.dist K T x z := by
  have hp : ∀ p : ℝ, 0 < p →
      pdist p (applyT T (smul c x)) (applyT T (smul c z)) = c * pdist p (applyT T x) (applyT T z) :=
    fun p h => by rw [applyT_smul, applyT_smul, pdist_smul hc h]
  cases K with
  | laplace q L => exact hp 2 two_pos
  | light q L =>
    show Real.sqrt (max (lightSq T (smul c x) (smul c z)) 0) = c * Real.sqrt (max (lightSq T x z) 0)
    -- `max (c²·s) 0 = c²·max s 0`
    rw [lightSq_smul, ← mul_zero (c ^ 2), ← mul_max_of_nonneg _ _ (sq_nonneg c), mul_zero, Real.sqrt_mul (sq_nonneg c),
      Real.sqrt_sq hc.le]
  | product q L => exact hp q hK
  | lpq p q L => exact hp p hK
  | sumPower q L c' P => exact hK.elim

theorem pairDists_scale {c : ℝ} (hc : 0 < c) (K : Spec ℝ) (hK : ParamOK K) (T : Transform ℝ)
    (X : List (List ℝ)) :
    pairDists (Kernel.dist K T) (X.map (smul c)) = (pairDists (Kernel.dist K T) X).map (c * ·) :=
  pairDists_map _ _ _ c (fun x z => dist_scale hc K hK T x z) X

/-- **C19 median heuristic under rescaling.** The adapted bandwidth `base × median` scales by `c`
when the inputs do — provided the `< eps → 1` guard fires at neither scale. -/
theorem bandwidth_scale {c eps base : ℝ} (hc : 0 < c) (K : Spec ℝ) (hK : ParamOK K) (T : Transform ℝ)
    (X : List (List ℝ))
    (hg : ∀ m, lowerMedian (pairDists (Kernel.dist K T) X) = some m → eps ≤ m ∧ eps ≤ c * m) :
    adapt eps base (pairDists (Kernel.dist K T) (X.map (smul c))) =
      (adapt eps base (pairDists (Kernel.dist K T) X)).map (c * ·) := by
  unfold adapt
  rw [pairDists_scale hc K hK, median_scale hc, Option.map_map, Option.map_map]
  exact Option.map_congr fun m hm => adapted_scale base (hg m hm).1 (hg m hm).2

/-- The profile identity behind `kernel_scale_invariant`: `(c·d)^q / (c·L)^q = d^q / L^q`. -/
theorem profile_scale_invariant {c : ℝ} (hc : 0 < c) (q : ℝ) {L d : ℝ} (hL : 0 ≤ L) (hd : 0 ≤ d) :
    lap q (c * L) (c * d) = lap q L d :=
  lap_scale hc q hL hd

/-- **C19 kernel scale invariance.** Inputs and bandwidth both scaled by `c > 0` leave every
Laplace-family kernel value unchanged (L2, memory-light, product, Lpq; any transform). -/
theorem kernel_scale_invariant {c : ℝ} (hc : 0 < c) (K : Spec ℝ) (hK : ParamOK K) (hL : 0 ≤ K.L)
    (T : Transform ℝ) (x z : List ℝ) :
    entry (K.withL (c * K.L)) T (smul c x) (smul c z) = entry K T x z := by
  -- each of these kernels is the Laplace profile of its own distance
  rw [entry_eq_lap_dist_of_paramOK (paramOK_withL _ hK), entry_eq_lap_dist_of_paramOK hK, withL_L, withL_q, dist_withL,
    dist_scale hc K hK, profile_scale_invariant hc _ hL (dist_nonneg K T x z)]

/-- **C19 Gram invariance.** The whole kernel matrix. -/
theorem gram_invariant {c : ℝ} (hc : 0 < c) (K : Spec ℝ) (hK : ParamOK K) (hL : 0 ≤ K.L)
    (T : Transform ℝ) (xs zs : List (List ℝ)) :
    matrix (K.withL (c * K.L)) T (xs.map (smul c)) (zs.map (smul c)) = matrix K T xs zs := by
  simp only [matrix, List.map_map, Function.comp_def, kernel_scale_invariant hc K hK hL]

/-- **C19 target (scale invariance of the fitted predictor), as a statement about the AGOP step `O.upd`
of the implementation.**  For every iterate `i` of the adaptive fit (any budget), every `c > 0`, every
test set: the iterate fitted on `(c·X, Y)` predicts at `c·X_test` what the iterate fitted on `(X, Y)`
predicts at `X_test` (so validation scores, hence the selected iterate, agree as well).  Guards: base
bandwidth `≥ 0`, `eps ≥ 0`, the `< eps` guard of the median fires at neither scale. -/
def fit_scale_invariant (O : Oracles ℝ) : Prop :=
  ∀ (c eps : ℝ) (K0 : Spec ℝ) (X Y Xtest : List (List ℝ)) (i : ℕ),
    0 < c → 0 ≤ eps → ParamOK K0 → 0 ≤ K0.L → GuardOff eps c O K0 X Y i →
    (iterate O eps K0 (X.map (smul c)) Y i).map (fun it => predict it (X.map (smul c)) (Xtest.map (smul c))) =
      (iterate O eps K0 X Y i).map fun it => predict it X Xtest

theorem predict_scale {c : ℝ} (hc : 0 < c) (it : Iterate ℝ) (hK : ParamOK it.K) (hL : 0 ≤ it.K.L)
    (X Xtest : List (List ℝ)) :
    predict (scaleIt c it) (X.map (smul c)) (Xtest.map (smul c)) = predict it X Xtest := by
  simp only [predict, scaleIt, gram_invariant hc it.K hK hL]

section
variable {c eps : ℝ} (hc : 0 < c) (heps : 0 ≤ eps) (O : Oracles ℝ) (K0 : Spec ℝ) (hK : ParamOK K0) (hL : 0 ≤ K0.L)
  (X Y : List (List ℝ))
-- every lemma of this section takes these four hypotheses, whether its proof uses them or not
include hc heps hK hL

theorem solveStep_scale (T : Transform ℝ)
    (hg : ∀ it, solveStep O eps K0 X Y T = some it → eps ≤ it.med ∧ eps ≤ c * it.med) :
    solveStep O eps K0 (X.map (smul c)) Y T = (solveStep O eps K0 X Y T).map (scaleIt c) := by
  unfold solveStep
  rw [pairDists_scale hc K0 hK, median_scale hc, Option.map_map, Option.map_map]
  refine Option.map_congr fun m hm => ?_
  -- `hm` under the `Option.map` of `solveStep` is the equation `hg` wants
  have hs : solveStep O eps K0 X Y T = some _ := congrArg (Option.map _) hm
  obtain ⟨h1, h2⟩ := hg _ hs
  obtain ⟨hP, hL'⟩ := solveStep_kernel_ok heps hK hL hs h1
  -- the Gram matrix the solve sees is the same at both scales
  have hmat := gram_invariant hc _ hP hL' T X X
  simp only [withL_L, withL_withL] at hmat
  -- the two iterates field by field: `K` by `adapted_scale`, `alpha` by `hmat`, `T` and `med` by `rfl`
  simp only [Function.comp, scaleIt, adapted_scale _ h1 h2, withL_L, withL_withL, hmat]

/-- Scale covariance of the whole adaptive fit from covariance of the AGOP step **at the iterates the fit visits**. -/
theorem iterate_scale_on (i : ℕ) (hg : GuardOff eps c O K0 X Y i)
    (hO : ∀ j < i, ∀ it, iterate O eps K0 X Y j = some it →
      O.upd (it.K.withL (c * it.K.L)) it.T (X.map (smul c)) it.alpha = O.upd it.K it.T X it.alpha) :
    iterate O eps K0 (X.map (smul c)) Y i = (iterate O eps K0 X Y i).map (scaleIt c) := by
  induction i with
  | zero => exact solveStep_scale hc heps O K0 hK hL X Y .none (hg 0 le_rfl)
  | succ i ih =>
    -- both runs bind over the same previous iterate `it`; the scaled run's AGOP step is called at `scaleIt c it`, where
    -- `hO` makes it the unscaled step; then one more solve
    have ih' := ih (fun j hj => hg j (Nat.le_succ_of_le hj)) fun j hj => hO j (Nat.lt_succ_of_lt hj)
    simp only [iterate, ih', Option.bind_map, Option.map_bind]
    refine Option.bind_congr fun it hi => ?_
    rw [Function.comp, scaleIt, hO i i.lt_succ_self it hi]
    exact solveStep_scale hc heps O K0 hK hL X Y _ fun it' h' =>
      hg (i + 1) le_rfl it' (by simp only [iterate, hi, Option.bind_some]; exact h')

theorem predict_iterate_scale_on (Xtest : List (List ℝ)) (i : ℕ) (hg : GuardOff eps c O K0 X Y i)
    (hO : ∀ j < i, ∀ it, iterate O eps K0 X Y j = some it →
      O.upd (it.K.withL (c * it.K.L)) it.T (X.map (smul c)) it.alpha = O.upd it.K it.T X it.alpha) :
    (iterate O eps K0 (X.map (smul c)) Y i).map (fun it => predict it (X.map (smul c)) (Xtest.map (smul c))) =
      (iterate O eps K0 X Y i).map fun it => predict it X Xtest := by
  rw [iterate_scale_on hc heps O K0 hK hL X Y i hg hO, Option.map_map]
  refine Option.map_congr fun it hi => ?_
  obtain ⟨hP, hL'⟩ := iterate_kernel_ok heps hK hL hi (hg i le_rfl it hi).1
  exact predict_scale hc it hP hL' X Xtest

end

/-- **C19 in part: any number of iterations, conditional on the AGOP step.**  `fit_scale_invariant` holds for every
AGOP step that is scale-covariant (`AgopScaleCovariant`: same normalised feature matrix from inputs and
bandwidth scaled by `c`).  The implementation's `fit_M` meets the contract only where the gradient masks fire alike at
both scales (and with the `1e-30` regulariser idealised to 0): `fit_scale_invariant_concrete`. -/
theorem fit_scale_invariant_partial (O : Oracles ℝ) (hO : AgopScaleCovariant O) :
    fit_scale_invariant O :=
  fun c _ K0 X Y Xtest i hc heps hK hL hg =>
    predict_iterate_scale_on hc heps O K0 hK hL X Y Xtest i hg fun _ _ it _ => hO c hc it.K it.T X it.alpha

/-- **C19 in part: unconditional for the first solve** (`iters = 0`, `M = I`, no AGOP step):
same Gram matrix ⇒ same coefficients (the solve is a function of the Gram matrix and the targets)
⇒ same predictions. -/
theorem fit_scale_invariant_iter0 (O : Oracles ℝ) (c eps : ℝ) (K0 : Spec ℝ) (X Y Xtest : List (List ℝ))
    (hc : 0 < c) (heps : 0 ≤ eps) (hK : ParamOK K0) (hL : 0 ≤ K0.L) (hg : GuardOff eps c O K0 X Y 0) :
    (iterate O eps K0 (X.map (smul c)) Y 0).map (fun it => predict it (X.map (smul c)) (Xtest.map (smul c))) =
      (iterate O eps K0 X Y 0).map fun it => predict it X Xtest :=
  predict_iterate_scale_on hc heps O K0 hK hL X Y Xtest 0 hg fun _ hj => absurd hj (Nat.not_lt_zero _)

/-- Non-vacuity: parameter guards are met by a concrete kernel of each adaptive class, and a constant AGOP
step is scale-covariant. -/
example : ParamOK (.laplace 1.3 2) ∧ ParamOK (.light 0.7 5) ∧ ParamOK (.product 1 0.5) ∧ ParamOK (.lpq 1.5 0.7 3) :=
  ⟨trivial, trivial, one_pos, show (0 : ℝ) < 1.5 by norm_num⟩

example : AgopScaleCovariant { solve := fun _ Y => Y, upd := fun _ _ _ _ => .none } :=
  fun _ _ _ _ _ _ => rfl

/-- the guard hypothesis is satisfiable for every data set (with `eps = 0`; the code's `eps` is `1e-14`) -/
example {c : ℝ} (hc : 0 < c) (O : Oracles ℝ) (K0 : Spec ℝ) (X Y : List (List ℝ)) (i : ℕ) :
    GuardOff 0 c O K0 X Y i := guardOff_zero hc O K0 X Y i

/-- **C19 (towards the AGOP contract)** One half of `AgopScaleCovariant` on the AGOP model of C14: if every gradient row
is multiplied by a common factor `a ≠ 0` — which is what rescaling the inputs and the bandwidth by `c` does to the
gradients of every Laplace-family kernel (`a = 1/c`: `Grad.fgrad_scale`, the other half) — the max-normalised AGOP is
unchanged (the `1e-30` regulariser idealised to 0).  `AgopStep.normAgop_scale` applies `Grad.fgrad_scale` and then this
fact (`Agop.normalise_agopFull_scale`). -/
theorem normalised_agop_scale_free (d : ℕ) (G : List (List ℝ)) (a : ℝ) (ha : a ≠ 0) :
    Xrfmv.Agop.normalise 0 (Xrfmv.Agop.agopFull d (G.map fun g => g.map (a * ·))) =
      Xrfmv.Agop.normalise 0 (Xrfmv.Agop.agopFull d G) :=
  Xrfmv.Agop.normalise_agopFull_scale d G ha

/-- The oracles of the implementation: the AGOP step is the concrete one (`Model/AgopStep.lean`: closed-form gradients of
C04 at the centers, `GᵀG` of C14, division by the maximum, then a function `root` of the normalised matrix — square root
through the eigen-decomposition, or the matrix itself for the memory-light kernel, or its diagonal); only the linear
solve (a function of the Gram matrix and the targets) and `root` stay abstract. -/
noncomputable def implOracles (solve : List (List ℝ) → List (List ℝ) → List (List ℝ)) (gradEps : ℝ)
    (root : List (List ℝ) → Transform ℝ) : Oracles ℝ :=
  { solve := solve, upd := Xrfmv.AgopStep.agopStep gradEps 0 root }

/-- The coincidence masks of the gradients fire for the same pairs of centers at both scales, at every iterate before
`i` (true when distinct centers are at least `max(gradEps, gradEps/c)` apart in the kernel's own transformed norm). -/
def MaskGuardOff (c eps gradEps : ℝ) (O : Oracles ℝ) (K0 : Spec ℝ) (X Y : List (List ℝ)) (i : ℕ) : Prop :=
  ∀ j < i, ∀ it, iterate O eps K0 X Y j = some it → Xrfmv.AgopStep.MaskGuard c gradEps it.K it.T X

/-- **C19 (scale invariance of the fitted predictor, any iteration budget, the implementation's AGOP step).**
For every linear solver and every matrix-root function, every Laplace-family kernel, every number of iterations `i`,
every `c > 0`: the iterate fitted on `(c·X, Y)` predicts at `c·X_test` exactly what the iterate fitted on `(X, Y)`
predicts at `X_test`.  Guards: the `< eps` guard of the median and the `< gradEps` coincidence masks fire at neither /
at the same pairs at both scales; idealisations: the `1e-30` in the normalisation is 0, all centers are used (below the
sub-sampling limits), gradients are not centred. -/
theorem fit_scale_invariant_concrete (solve : List (List ℝ) → List (List ℝ) → List (List ℝ)) (gradEps : ℝ)
    (root : List (List ℝ) → Transform ℝ) (c eps : ℝ) (K0 : Spec ℝ) (X Y Xtest : List (List ℝ)) (i : ℕ)
    (hc : 0 < c) (heps : 0 ≤ eps) (hK : ParamOK K0) (hL : 0 ≤ K0.L)
    (hg : GuardOff eps c (implOracles solve gradEps root) K0 X Y i)
    (hmask : MaskGuardOff c eps gradEps (implOracles solve gradEps root) K0 X Y i) :
    (iterate (implOracles solve gradEps root) eps K0 (X.map (smul c)) Y i).map
        (fun it => predict it (X.map (smul c)) (Xtest.map (smul c))) =
      (iterate (implOracles solve gradEps root) eps K0 X Y i).map fun it => predict it X Xtest := by
  refine predict_iterate_scale_on hc heps _ K0 hK hL X Y Xtest i hg fun j hj it hit => ?_
  obtain ⟨hitP, hitL⟩ := iterate_kernel_ok heps hK hL hit (hg j hj.le it hit).1
  exact Xrfmv.AgopStep.agopStep_scale hc gradEps root it.K hitP hitL it.T X it.alpha (hmask j hj it hit)

/-- Non-vacuity: with `eps = gradEps = 0` both guards hold for every data set, every kernel, every budget. -/
example (solve : List (List ℝ) → List (List ℝ) → List (List ℝ)) (root : List (List ℝ) → Transform ℝ) {c : ℝ} (hc : 0 < c)
    (K0 : Spec ℝ) (X Y : List (List ℝ)) (i : ℕ) :
    GuardOff 0 c (implOracles solve 0 root) K0 X Y i ∧ MaskGuardOff c 0 0 (implOracles solve 0 root) K0 X Y i :=
  ⟨guardOff_zero hc _ K0 X Y i, fun _ _ it _ => Xrfmv.AgopStep.maskGuard_zero hc it.K it.T X⟩

end Xrfmv.Props.C19
