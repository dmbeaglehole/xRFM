/-
C13 — Label encoding round-trips and decodes to valid probabilities.

Statements are about `Xrfmv.Codec` (model of `ClassificationConverter`, class_conversion.py) in exact
real arithmetic, for EVERY number of classes `K = n + 1 ≥ 2`, every prior with `Σ prior = 1`
(zeros allowed: classes that never occur) and every real decoder input.

The reduced QR factor `Q` of `torch.linalg.qr` is an oracle: the theorems hold for every `Q` meeting
`QContract` (`QᵀQ = I`, `QQᵀ = I − J/K`); the contract is checked on the real `Q` by the correspondence.
The stored `_invA = torch.linalg.inv(A)` is any one-sided inverse `invA` of `A = [Cᵀ; 1ᵀ]`
(`A · invA = I` or `invA · A = I`); that `A` *is* invertible is `A_invertible`.
`IsProb p` : all entries `≥ 0` and `Σ p = 1`.  Floating-point rounding is outside these statements.
-/
import Xrfmv.Lemmas.Codec
import Mathlib.LinearAlgebra.Matrix.SemiringInverse

namespace Xrfmv.Props.C13
open Xrfmv.Codec Finset BigOperators

variable {n : ℕ}

/-- The stored inverse: a one-sided inverse of the augmented code matrix. -/
def IsInvOfA (prior : Vec ℝ (n + 1)) (Q : Mat ℝ (n + 1) n) (invA : Mat ℝ (n + 1) (n + 1)) : Prop :=
  Matrix.of (augA prior Q) * Matrix.of invA = 1 ∨ Matrix.of invA * Matrix.of (augA prior Q) = 1

theorem IsInvOfA.left_inv {prior : Vec ℝ (n + 1)} {Q : Mat ℝ (n + 1) n} {invA : Mat ℝ (n + 1) (n + 1)}
    (h : IsInvOfA prior Q invA) : Matrix.of invA * Matrix.of (augA prior Q) = 1 :=
  h.elim mul_eq_one_comm.mp id

/-- `A = [Cᵀ; 1ᵀ]` is invertible for every prior (zeros included), with inverse `[Q | prior]`. -/
theorem A_invertible (prior : Vec ℝ (n + 1)) (Q : Mat ℝ (n + 1) n) (hQ : QContract Q)
    (hp : ∑ k, prior k = 1) :
    Matrix.of (augA prior Q) * Matrix.of (explicitInv prior Q) = 1 ∧
    Matrix.of (explicitInv prior Q) * Matrix.of (augA prior Q) = 1 :=
  have h := augA_mul_explicitInv hQ.toQC prior hp
  ⟨h, mul_eq_one_comm.mp h⟩

/-- **Key lemma** `A · (prior + Q v) = [v; 1]` for every `v`. -/
theorem decode_explicit (prior : Vec ℝ (n + 1)) (Q : Mat ℝ (n + 1) n) (hQ : QContract Q)
    (hp : ∑ k, prior k = 1) (v : Vec ℝ n) :
    mulVec (augA prior Q) (decodeExplicit prior Q v) = aug v := by
  -- `prior + Q v = [Q | prior] · [v; 1]`
  rw [← decodeInv_explicitInv, decodeInv, mulVec_eq, mulVec_eq, Matrix.mulVec_mulVec,
    (A_invertible prior Q hQ hp).1, Matrix.one_mulVec]

/-- What the code computes (`[num, 1] @ invAᵀ` with the stored inverse) is `prior + Q · num`: a one-sided inverse of
`A` is the explicit one. -/
theorem decode_stored_inverse (prior : Vec ℝ (n + 1)) (Q : Mat ℝ (n + 1) n) (hQ : QContract Q)
    (hp : ∑ k, prior k = 1) (invA : Mat ℝ (n + 1) (n + 1)) (hinv : IsInvOfA prior Q invA) (v : Vec ℝ n) :
    decodeInv invA v = decodeExplicit prior Q v := by
  have : invA = explicitInv prior Q :=
    Matrix.of.injective (left_inv_eq_right_inv hinv.left_inv (A_invertible prior Q hQ hp).1)
  rw [this, decodeInv_explicitInv]

/-- **C13 round trip, prevalence (before clamping)**: the code of class `i` decodes to the unit
vector `e_i` – for every `K ≥ 2`, also when class `i` (or any other) has prior 0.  Only `invA · A = I` is used:
`[C_i; 1]` is column `i` of `A`. -/
theorem roundtrip_prevalence_decode (prior : Vec ℝ (n + 1)) (Q : Mat ℝ (n + 1) n)
    (invA : Mat ℝ (n + 1) (n + 1)) (hinv : IsInvOfA prior Q invA) (i : Fin (n + 1)) :
    decodeInv invA (encodePrev prior Q i) = fun k => if i = k then 1 else 0 := by
  funext k
  calc decodeInv invA (encodePrev prior Q i) k
      = (Matrix.of invA * Matrix.of (augA prior Q)) k i := by
        rw [Matrix.mul_apply]; simp only [Matrix.of_apply, augA_eq_aug]; exact vsum_eq_sum _ _
    _ = if i = k then 1 else 0 := by rw [hinv.left_inv, Matrix.one_apply]; simp only [eq_comm]

/-- **C13 round trip, prevalence**: `numerical_to_labels(labels_to_numerical(i)) = i` for every clamp
`0 < ε < 1/2` (the code uses `1e-3`).  (`hQ`, `hp` are the setting the property is stated in;
`roundtrip_prevalence_decode` does not need them.) -/
theorem roundtrip_prevalence (prior : Vec ℝ (n + 1)) (Q : Mat ℝ (n + 1) n) (hQ : QContract Q)
    (hp : ∑ k, prior k = 1) (invA : Mat ℝ (n + 1) (n + 1)) (hinv : IsInvOfA prior Q invA)
    (ε : ℝ) (h0 : 0 < ε) (h2 : ε < 1 / 2) (i : Fin (n + 1)) :
    roundtripPrevInv ε invA prior Q i = i := by
  simp only [roundtripPrevInv, labelPrevInv, probasPrevInv]
  rw [roundtrip_prevalence_decode prior Q invA hinv]
  exact argmax_clampNorm_delta h0 h2 i

/-- **C13 round trip, zero_one**: for every `K = n + 1 ≥ 2` and every label (binary column for
`K = 2`, one-hot otherwise), any clamp `0 < ε < 1/2`.  (`K ≥ 2` is what the property asks; `roundtripZeroOne_eq`
does not need it.) -/
theorem roundtrip_zero_one (hn : 1 ≤ n) (ε : ℝ) (h0 : 0 < ε) (h2 : ε < 1 / 2) (l : Fin (n + 1)) :
    roundtripZeroOne ε n l = l.val :=
  roundtripZeroOne_eq ε h0 h2 l

/-- **C13 equidistance**: distinct class codes are at squared distance 2 (a regular simplex), whatever
the prior. -/
theorem equidistant (prior : Vec ℝ (n + 1)) (Q : Mat ℝ (n + 1) n) (hQ : QContract Q)
    (i j : Fin (n + 1)) (hij : i ≠ j) :
    sqDist (encodePrev prior Q i) (encodePrev prior Q j) = 2 := by
  have h := hQ.toQC
  -- `μ` cancels: `‖Q_i − Q_j‖² = (QQᵀ)_ii − 2 (QQᵀ)_ij + (QQᵀ)_jj`
  simp only [sqDist, encodePrev, codes, vsum_eq_sum, sub_sub_sub_cancel_right, sub_mul, mul_sub,
    Finset.sum_sub_distrib, h.proj, if_true, if_neg hij, if_neg hij.symm]
  ring

/-- **C13 zero ↦ prior**: the zero vector decodes to the empirical class frequencies (before
clamping), for any prior including zero entries. -/
theorem zero_to_prior (prior : Vec ℝ (n + 1)) (Q : Mat ℝ (n + 1) n) (hQ : QContract Q)
    (hp : ∑ k, prior k = 1) (invA : Mat ℝ (n + 1) (n + 1)) (hinv : IsInvOfA prior Q invA) :
    decodeInv invA (fun _ => 0) = prior := by
  rw [decode_stored_inverse prior Q hQ hp invA hinv, decodeExplicit_zero]

/-- **C13 affinity**: before clamping, decoding commutes with affine combinations (`Σ w = 1`,
weights of any sign). -/
theorem decode_affine (prior : Vec ℝ (n + 1)) (Q : Mat ℝ (n + 1) n) (hQ : QContract Q)
    (hp : ∑ k, prior k = 1) (invA : Mat ℝ (n + 1) (n + 1)) (hinv : IsInvOfA prior Q invA)
    {m : ℕ} (w : Vec ℝ m) (hw : ∑ i, w i = 1) (vs : Fin m → Vec ℝ n) :
    decodeInv invA (mixture w vs) = mixture w (fun i => decodeInv invA (vs i)) := by
  simp only [decode_stored_inverse prior Q hQ hp invA hinv]
  exact decodeExplicit_mixture prior Q w hw vs

/-- **C13 affinity on codes**: the mixture `Σ w_i C_i` of class codes decodes to the class mixture `w`. -/
theorem decode_mixture_of_codes (prior : Vec ℝ (n + 1)) (Q : Mat ℝ (n + 1) n) (hQ : QContract Q)
    (hp : ∑ k, prior k = 1) (invA : Mat ℝ (n + 1) (n + 1)) (hinv : IsInvOfA prior Q invA)
    (w : Vec ℝ (n + 1)) (hw : ∑ i, w i = 1) :
    decodeInv invA (mixture w (fun i => encodePrev prior Q i)) = w := by
  rw [decode_affine prior Q hQ hp invA hinv w hw]
  simp only [roundtrip_prevalence_decode prior Q invA hinv]
  exact mixture_delta w

/-- Clamping every entry to `[ε, 1-ε]` and dividing by the sum gives a probability row: any `K ≥ 1`,
any `0 < ε < 1`, any real input row. -/
theorem clamp_norm_simplex {K : ℕ} (hK : 1 ≤ K) (ε : ℝ) (h0 : 0 < ε) (h1 : ε < 1) (p : Vec ℝ K) :
    IsProb (clampNorm ε p) :=
  clampNorm_isProb hK h0 h1 p

/-- **C13 validity**: decoding ANY real vector yields a probability row, in every mode and shape
(prevalence with whatever matrix is stored as `_invA`; zero_one binary column; zero_one `K` columns). -/
theorem decode_valid (ε : ℝ) (h0 : 0 < ε) (h1 : ε < 1) :
    (∀ (invA : Mat ℝ (n + 1) (n + 1)) (v : Vec ℝ n), IsProb (probasPrevInv ε invA v)) ∧
    (∀ v : Vec ℝ 1, IsProb (probasBinary ε v)) ∧
    (∀ v : Vec ℝ (n + 1), IsProb (probasMulti ε v)) :=
  ⟨fun _ _ => clampNorm_isProb (Nat.succ_pos n) h0 h1 _,
   fun _ => clampNorm_isProb (Nat.succ_pos 1) h0 h1 _,
   fun _ => clampNorm_isProb (Nat.succ_pos n) h0 h1 _⟩

/-- **C13 validity at the boundary `ε = 0`** (the decoder then clamps to `[0, 1]`): the row is a probability row as soon
as one entry of the affine decode is positive — in particular whenever the entries sum to one, which holds in
'prevalence' mode and for the binary column `[1 - t, t]`. -/
theorem decode_valid_eps0 {K : ℕ} (p : Vec ℝ K) (hpos : ∃ k, 0 < p k) : IsProb (clampNorm 0 p) := by
  have hnn : ∀ i, 0 ≤ clampVec (0 : ℝ) p i := fun i =>
    le_trans (le_min le_rfl (by norm_num)) (clampVec_apply 0 p i ▸ clamp_ge _ _ _)
  obtain ⟨k, hk⟩ := hpos
  have hkpos : 0 < clampVec (0 : ℝ) p k := by
    rw [clampVec_apply, clamp]; exact lt_min (lt_of_lt_of_le hk (le_max_left _ _)) (by norm_num)
  exact funext (clampNorm_apply 0 p) ▸ isProb_div_sum hnn
    (lt_of_lt_of_le hkpos (Finset.single_le_sum (fun i _ => hnn i) (Finset.mem_univ k)))

/-- Rows that sum to one have a positive entry (`K ≥ 1`): the hypothesis of `decode_valid_eps0` in 'prevalence' mode
and for the binary column. -/
theorem pos_entry_of_sum_one {K : ℕ} (p : Vec ℝ K) (h : ∑ k, p k = 1) : ∃ k, 0 < p k :=
  (Finset.exists_lt_of_sum_lt (s := Finset.univ) (f := fun _ => (0 : ℝ)) (g := p)
    (by rw [Finset.sum_const_zero, h]; exact one_pos)).imp fun _ hk => hk.2

/-- **The excluded point**: with `ε = 0` a 'zero_one' row without a positive entry is clamped to the zero row and the
normalisation divides by zero (the real code returns NaN there; reproduced, see DESIGN §11.3 observations).  `ε > 0` in
`decode_valid` is therefore necessary for "any finite real vector". -/
theorem decode_eps0_zero_row {K : ℕ} (p : Vec ℝ K) (h : ∀ k, p k ≤ 0) : ∑ k, clampVec (0 : ℝ) p k = 0 := by
  refine Finset.sum_eq_zero fun i _ => ?_
  rw [clampVec_apply, clamp, max_eq_right (h i)]
  exact min_eq_left (by norm_num)

/-- The empirical prior `counts / total` of any count vector that is not all zero (zeros allowed) is a
probability row, so the hypothesis `Σ prior = 1` above is met by every label multiset. -/
theorem prior_is_distribution {K : ℕ} (counts : Vec ℕ K) (hpos : 0 < ∑ k, counts k) :
    IsProb (priorOf counts : Vec ℝ K) :=
  funext (priorOf_apply counts) ▸ isProb_div_sum (fun i => Nat.cast_nonneg _) (by exact_mod_cast hpos)

/-- Hadamard-type factor for `K = 4`: a rational instance of the QR contract. -/
noncomputable def Q4 : Mat ℝ 4 3 := fun k j => if k.val = 0 ∨ k.val = j.val + 1 then 1 / 2 else -(1 / 2)

theorem Q4_contract : QContract Q4 := by
  -- `Q4 = S/2` for a sign matrix `S`; the contract reduces to two identities of `S`, evaluated in `ℤ`
  let S : Fin 4 → Fin 3 → ℤ := fun k j => if k.val = 0 ∨ k.val = j.val + 1 then 1 else -1
  have hQ : ∀ k j, Q4 k j = (S k j : ℝ) / 2 := fun k j => by
    simp only [Q4, S]; split <;> norm_num
  have hO : ∀ a b, ∑ k, S k a * S k b = if a = b then 4 else 0 := by decide
  have hP : ∀ k l, ∑ j, S k j * S l j = if k = l then 3 else -1 := by decide
  have cast : ∀ {m : ℕ} (u v : Fin m → ℤ),
      ∑ i, (u i : ℝ) / 2 * ((v i : ℝ) / 2) = ((∑ i, u i * v i : ℤ) : ℝ) / 4 := fun u v => by
    push_cast; rw [Finset.sum_div]; exact Finset.sum_congr rfl fun i _ => by ring
  refine QC.toQContract ⟨fun a b => ?_, fun k l => ?_⟩
  · simp only [hQ]; rw [cast (S · a) (S · b), hO]; split_ifs <;> norm_num
  · simp only [hQ]; rw [cast (S k) (S l), hP]; split_ifs <;> norm_num

/-- Counts `(5, 0, 1, 2)`: class 1 never occurs.  All hypotheses of the theorems above are satisfiable:
the contract by `Q4`, `Σ prior = 1` by the empirical prior, `IsInvOfA` by the explicit inverse. -/
example : ∃ (Q : Mat ℝ 4 3) (prior : Vec ℝ 4) (invA : Mat ℝ 4 4),
    QContract Q ∧ ∑ k, prior k = 1 ∧ prior 1 = 0 ∧ IsInvOfA prior Q invA := by
  have hp : IsProb (priorOf ![5, 0, 1, 2] : Vec ℝ 4) := prior_is_distribution _ (by decide)
  refine ⟨Q4, _, explicitInv _ Q4, Q4_contract, hp.2, ?_, Or.inl (A_invertible _ Q4 Q4_contract hp.2).1⟩
  rw [priorOf_apply]
  exact div_eq_zero_iff.mpr (Or.inl Nat.cast_zero)

end Xrfmv.Props.C13
