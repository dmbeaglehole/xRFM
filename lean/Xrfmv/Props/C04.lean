/-
C04 — Function gradients are the true gradients of the kernel predictor.

Statements are about `Xrfmv.Grad` (`Model/Grad.lean`): the closed forms `pairGrad` / `gradLight` / `rowGrad` / `fgrad`
that the driver executes on `Float` and the correspondence check compares with `Kernel.get_function_grads`,
`RFM.get_grads`, `xRFM.get_grads`.  All theorems are at `ℝ` (exact arithmetic; rounding is the allowance of the check).

A point with one varying coordinate is `vpre ++ s :: vpost`, the matching center `upre ++ a :: upost` with
`vpre.length = upre.length` (every coordinate of every vector has this form), and `HasDerivAt … t` is the partial
derivative at `s = t` with the other coordinates fixed: theorems named `…_partial` state the gradient entry by entry in
this form.  The full Fréchet-derivative statement `C04_full` is PROVED (`C04_full_holds`): every kernel (the memory-light
one included), no transform / a vector / a symmetric matrix tied to the list model, every `n`.  It is proved on `ℝⁿ`
directly (`Lemmas/GradFull.lean`), from the same separable form of each kernel (`SepForm`, `Lemmas/Grad.lean`) that gives
the per-coordinate theorems.
-/
import Xrfmv.Lemmas.GradFull
import Xrfmv.Lemmas.GradGen
import Xrfmv.Lemmas.FwdGen
import Mathlib.Analysis.Calculus.Deriv.Pi

namespace Xrfmv.Props.C04
open Xrfmv.Grad

/-- Parameter guards the kernel constructors enforce (`assert`s of `kernels.py`) for the exponents of the property:
`L > 0`, `0 < q ≤ p ≤ 2`, `eps > 0`, `0 ≤ const_mix < 1`. -/
structure Guards (P : Params ℝ) : Prop where
  L_pos : 0 < P.L
  q_pos : 0 < P.q
  q_le_p : P.q ≤ P.p
  p_le_two : P.p ≤ 2
  eps_pos : 0 < P.eps
  cmix_nonneg : 0 ≤ P.cmix
  cmix_lt_one : P.cmix < 1

/-- The guards are satisfiable (Laplace exponent 0.7, Lpq norm 1.5, bandwidth 3, the default `eps`). -/
example : Guards { L := 3, q := 0.7, p := 1.5, eps := 1e-10, cmix := 0.2, power := 2 } := by
  constructor <;> norm_num

theorem Guards.p_pos {P : Params ℝ} (g : Guards P) : 0 < P.p := g.q_pos.trans_le g.q_le_p

/-- **C04(1)** `d/ds exp(−|s|^q/L^q) = exp(−|t|^q/L^q)·(−q/L^q)·|t|^{q−1}·sign t` at every `t ≠ 0`. -/
theorem profile_hasDerivAt (L q t : ℝ) (_hL : 0 < L) (_hq : 0 < q) (ht : t ≠ 0) :
    HasDerivAt (fun s : ℝ => Real.exp (-(|s| ^ q) / L ^ q))
      (Real.exp (-(|t| ^ q) / L ^ q) * (-(q / L ^ q)) * (|t| ^ (q - 1) * (SignType.sign t : ℝ))) t := by
  have h := profile_hasDerivAt_sgnPow L q t ht
  rw [sgnPow_eq] at h
  exact h

example : ∃ L q t : ℝ, 0 < L ∧ 0 < q ∧ t ≠ 0 := ⟨3, 0.7, -2, by norm_num, by norm_num, by norm_num⟩

/-- **C04(2a)** radial profile of the *squared* distance: `d/dr exp(−(√r)^q/L^q)` for `r > 0`. -/
theorem radial_profile_hasDerivAt (L q r : ℝ) (_hL : 0 < L) (_hq : 0 < q) (hr : 0 < r) :
    HasDerivAt (fun x : ℝ => Real.exp (-(Real.sqrt x ^ q) / L ^ q))
      (Real.exp (-(Real.sqrt r ^ q) / L ^ q) * (-(q / L ^ q)) * Real.sqrt r ^ (q - 2) / 2) r :=
  radial_hasDerivAt L q r hr

/-- **C04(2b)** coordinate chain rule `∂/∂z_d ‖z − x‖² = 2(z_d − x_d)`. -/
theorem sqdist_coord_hasDerivAt (vpre vpost upre upost : List ℝ) (a t : ℝ) (h : vpre.length = upre.length) :
    HasDerivAt (fun s => sqDist (upre ++ a :: upost) (vpre ++ s :: vpost)) (2 * (t - a)) t :=
  coordSum_hasDerivAt (fun x => x * x) h
    (((hasDerivAt_id' (t - a)).mul (hasDerivAt_id' (t - a))).congr_deriv (by ring))

/-- **C04(2c)** L2 kernel: with the mask not firing (`dist ≥ eps > 0`, the point does not coincide with the center) the
entry `d` of the stated formula `M_ij·(v − u)`, `M_ij = −(q/L^q)·k·dist^{q−2}`, is `∂k/∂v_d`. -/
theorem l2_grad_partial (P : Params ℝ) (g : Guards P) (vpre vpost upre upost : List ℝ) (a t : ℝ)
    (h : vpre.length = upre.length)
    (hne : ¬ (Real.sqrt (sqDist (upre ++ a :: upost) (vpre ++ t :: vpost)) < P.eps)) :
    ∃ gd, (gradL2 P (upre ++ a :: upost) (vpre ++ t :: vpost))[vpre.length]? = some gd ∧
      HasDerivAt (fun s => kL2 P (upre ++ a :: upost) (vpre ++ s :: vpost)) gd t :=
  (kL2_sepForm P g.eps_pos _ _ hne).isPartialAt h hne

/-- **C04(2d)** memory-light kernel with a diagonal matrix `M = diag m` (it works with `M`, not `√M`, and returns the
gradient w.r.t. the raw point): entry `d` of `M_ij·((z − x)M)` is `∂/∂z_d k`. -/
theorem light_diag_grad_partial (P : Params ℝ) (g : Guards P) (zpre zpost xpre xpost mpre mpost : List ℝ) (a t md : ℝ)
    (h : zpre.length = xpre.length) (hm : zpre.length = mpre.length)
    (hne : ¬ (Real.sqrt (lightSq (.diag (mpre ++ md :: mpost)) (xpre ++ a :: xpost) (zpre ++ t :: zpost)) < P.eps)) :
    ∃ gd, (gradLight P (.diag (mpre ++ md :: mpost)) (xpre ++ a :: xpost) (zpre ++ t :: zpost))[zpre.length]? = some gd ∧
      HasDerivAt (fun s => kLight P (.diag (mpre ++ md :: mpost)) (xpre ++ a :: xpost) (zpre ++ s :: zpost)) gd t := by
  have hr : 0 < lightSq (.diag (mpre ++ md :: mpost)) (xpre ++ a :: xpost) (zpre ++ t :: zpost) :=
    Real.sqrt_pos.1 (g.eps_pos.trans_le (not_lt.1 hne))
  have hl : (vsub zpre xpre).length = mpre.length := (vsub_length h).trans hm
  -- the quadratic form splits into the parts before, at and after the coordinate
  have hq : HasDerivAt (fun s => dot (vsub (zpre ++ s :: zpost) (xpre ++ a :: xpost))
      (applyT (.diag (mpre ++ md :: mpost)) (vsub (zpre ++ s :: zpost) (xpre ++ a :: xpost)))) (2 * ((t - a) * md)) t := by
    have h1 : HasDerivAt (fun s : ℝ => s - a) 1 t := (hasDerivAt_id' t).sub_const a
    have h2 : HasDerivAt (fun s : ℝ => (s - a) * ((s - a) * md)) (2 * ((t - a) * md)) t :=
      (h1.mul (h1.mul_const md)).congr_deriv (by ring)
    have h3 := (h2.add_const (dot (vsub zpost xpost) (applyT (.diag mpost) (vsub zpost xpost)))).const_add
      (dot (vsub zpre xpre) (applyT (.diag mpre) (vsub zpre xpre)))
    refine h3.congr_of_eventuallyEq (Filter.Eventually.of_forall fun s => ?_)
    beta_reduce
    rw [vsub_split h, applyT_diag_split hl, dot_append _ _ _ _ (applyT_diag_length hl).symm, dot_cons]
  -- the clamp is inactive at `t`, hence near `t`
  have hsq : HasDerivAt (fun s => lightSq (.diag (mpre ++ md :: mpost)) (xpre ++ a :: xpost) (zpre ++ s :: zpost))
      (2 * ((t - a) * md)) t := hq.congr_of_eventuallyEq (clamp_eventuallyEq hq.continuousAt hr)
  refine ⟨l2Factor P (Real.sqrt (lightSq (.diag (mpre ++ md :: mpost)) (xpre ++ a :: xpost) (zpre ++ t :: zpost)))
    * ((t - a) * md), ?_, ?_⟩
  · simp only [gradLight, sqrt_real, if_neg hne]
    rw [vsub_split h, applyT_diag_split hl]
    exact map_entry _ ((applyT_diag_length hl).trans (vsub_length h))
  · exact (HasDerivAt.comp t (l2Outer_hasDerivAt P hr) hsq).congr_deriv (by ring)

/-- **C04(2e)** memory-light kernel without a matrix is the L2 kernel, value and gradient (so (2c) applies). -/
theorem light_none_is_l2 (P : Params ℝ) (x z : List ℝ) :
    kLight P .none x z = kL2 P x z ∧ gradLight P .none x z = gradL2 P x z :=
  ⟨by unfold kLight kL2; rw [lightSq_none], by unfold gradLight gradL2; rw [lightSq_none]; rfl⟩

/-- Non-vacuity of (2c): two distinct points of `ℝ²` at distance 5 ≥ eps. -/
example : ¬ (Real.sqrt (sqDist ([] ++ (0 : ℝ) :: [0]) ([] ++ (3 : ℝ) :: [4])) < (1e-10 : ℝ)) := by
  have : sqDist ([] ++ (0 : ℝ) :: [0]) ([] ++ (3 : ℝ) :: [4]) = 25 := by
    norm_num [sqDist, vsub, vsum]
  rw [this, show (25 : ℝ) = 5 ^ 2 by norm_num, Real.sqrt_sq (by norm_num)]
  norm_num

/-- **C04(3a)** product kernel `Π_d e_d` (only factor `d` depends on `z_d`): for `z_d ≠ x_d` and the mask not firing,
entry `d` of `k·(−q/L^q)·|Δ_d|^{q−1} sgn Δ_d` is `∂k/∂v_d`. -/
theorem prod_grad_partial (P : Params ℝ) (_g : Guards P) (vpre vpost upre upost : List ℝ) (a t : ℝ)
    (h : vpre.length = upre.length) (hta : t ≠ a)
    (hne : ¬ (pNorm P.q (vsub (vpre ++ t :: vpost) (upre ++ a :: upost)) < P.eps)) :
    ∃ gd, (gradProd P (upre ++ a :: upost) (vpre ++ t :: vpost))[vpre.length]? = some gd ∧
      HasDerivAt (fun s => kProd P (upre ++ a :: upost) (vpre ++ s :: vpost)) gd t :=
  (kProd_sepForm P _ _ hne).isPartialAt h ⟨sub_ne_zero.2 hta, hne⟩

/-- **C04(3b)** sum-power kernel (power rule ∘ profile): for `|z_d − x_d| ≥ eps`, entry `d` of
`P·s^{P−1}·((1−c)/dim)·e_d·(−q/L^q)·|Δ_d|^{q−1} sgn Δ_d` is `∂k/∂v_d` (any real power `P`; the bracket `s` is positive). -/
theorem sumpower_grad_partial (P : Params ℝ) (g : Guards P) (vpre vpost upre upost : List ℝ) (a t : ℝ)
    (h : vpre.length = upre.length) (hne : ¬ (|t - a| < P.eps)) :
    ∃ gd, (gradSumPower P (upre ++ a :: upost) (vpre ++ t :: vpost))[vpre.length]? = some gd ∧
      HasDerivAt (fun s => kSumPower P (upre ++ a :: upost) (vpre ++ s :: vpost)) gd t :=
  pair_isPartialAt .sumPower P g.eps_pos g.p_pos g.cmix_nonneg g.cmix_lt_one h hne

/-- **C04(3c)** Lpq kernel via `D^q = (Σ|Δ|^p)^{q/p}`: for `z_d ≠ x_d` and the mask not firing, entry `d` of
`k·(−q/L^q)·D^{q−p}·|Δ_d|^{p−1} sgn Δ_d` is `∂k/∂v_d`. -/
theorem lpq_grad_partial (P : Params ℝ) (g : Guards P) (vpre vpost upre upost : List ℝ) (a t : ℝ)
    (h : vpre.length = upre.length) (hta : t ≠ a)
    (hne : ¬ (pNorm P.p (vsub (vpre ++ t :: vpost) (upre ++ a :: upost)) < P.eps)) :
    ∃ gd, (gradLpq P (upre ++ a :: upost) (vpre ++ t :: vpost))[vpre.length]? = some gd ∧
      HasDerivAt (fun s => kLpq P (upre ++ a :: upost) (vpre ++ s :: vpost)) gd t :=
  pair_isPartialAt .lpq P g.eps_pos g.p_pos g.cmix_nonneg g.cmix_lt_one h ⟨sub_ne_zero.2 hta, hne⟩

/-- Non-vacuity of (3): in `ℝ²`, `v = (3, 4)`, `u = (0, 0)`, `q = 1`: `Σ|Δ|^q = 7 ≥ eps` and `3 ≠ 0`. -/
example : (3 : ℝ) ≠ 0 ∧ ¬ (pSum (1 : ℝ) (vsub ([] ++ (3 : ℝ) :: [4]) ([] ++ (0 : ℝ) :: [0])) < (1e-10 : ℝ)) := by
  norm_num [pSum, vsub, vsum]

/-- **C04(4a)** `grad_linear`: if every center's kernel term has derivative `g u` along the moving coordinate, the
predictor of a coefficient row `c` has derivative `Σ_i c_i · g(u_i)` — the `c`-weighted sum. -/
theorem grad_linear (kf : List ℝ → List ℝ → ℝ) (V : ℝ → List ℝ) (g : List ℝ → ℝ) (t : ℝ) (c : List ℝ)
    (us : List (List ℝ)) (h : ∀ u ∈ us, HasDerivAt (fun s => kf u (V s)) (g u) t) :
    HasDerivAt (fun s => fval kf c us (V s)) (vsum (List.zipWith (fun ci u => ci * g u) c us)) t := by
  induction c generalizing us with
  | nil => exact hasDerivAt_const t 0
  | cons ci c ih =>
    cases us with
    | nil => exact hasDerivAt_const t 0
    | cons u us =>
      simp only [fval, List.zipWith_cons_cons, vsum_cons]
      exact ((h u List.mem_cons_self).const_mul ci).add (ih us fun u' hu' => h u' (List.mem_cons_of_mem _ hu'))

/-- **C04(4b)** no mixing between outputs: row `l` of the returned tensor is the tensor computed from row `l` of the
coefficient matrix alone. -/
theorem grad_per_output (k : Kind) (P : Params ℝ) (T : Transform ℝ) (xs zs : List (List ℝ)) (coefs : List (List ℝ)) (l : ℕ) :
    (fgrad k P T xs zs coefs)[l]? = (coefs[l]?).map fun c => (fgrad k P T xs zs [c]).headD [] := by
  cases k <;> simp only [fgrad, List.getElem?_map, List.map_cons, List.map_nil, List.headD_cons]

/-- **C04(4c)** all kernels, whole predictor, transformed coordinates: entry `d` of the model's row gradient is
`∂/∂v_d Σ_i c_i k(u_i, v)` when the point is in general position w.r.t. every center (`CoordOK`: mask not firing, and
for the coordinate-wise kernels `v_d ≠ u_{i,d}`). -/
theorem predictor_grad_partial (k : Kind) (P : Params ℝ) (g : Guards P) (vpre vpost : List ℝ) (t : ℝ) (c : List ℝ)
    (us : List (List ℝ))
    (hus : ∀ u ∈ us, ∃ upre a upost, u = upre ++ a :: upost ∧ vpre.length = upre.length ∧ vpost.length = upost.length ∧
      CoordOK k P u (vpre ++ t :: vpost) (t - a)) :
    HasDerivAt (fun s => fval (kval k P) c us (vpre ++ s :: vpost))
      ((rowGrad (pairGrad k P) c us (vpre ++ t :: vpost)).getD vpre.length 0) t := by
  have hlen : ∀ u ∈ us, (pairGrad k P u (vpre ++ t :: vpost)).length = (vpre ++ t :: vpost).length := by
    intro u hu
    obtain ⟨upre, a, upost, rfl, h1, h2, _⟩ := hus u hu
    exact pairGrad_length k P _ _ (by simp [h1, h2])
  rw [(rowGrad_length_getD _ _ _ _ hlen).2]
  refine grad_linear (kval k P) (fun s => vpre ++ s :: vpost)
    (fun u => (pairGrad k P u (vpre ++ t :: vpost)).getD vpre.length 0) t c us ?_
  intro u hu
  obtain ⟨upre, a, upost, rfl, h1, _, hok⟩ := hus u hu
  obtain ⟨gd, hg, hd⟩ := pair_isPartialAt k P g.eps_pos g.p_pos g.cmix_nonneg g.cmix_lt_one h1 hok
  rw [List.getD_eq_getElem?_getD, hg]
  exact hd

/-- **C04(5a)** `chain_T`, diagonal transform: `∂/∂z_d [G(z ⊙ τ)] = τ_d·(∂_d G)(z ⊙ τ)`. -/
theorem chain_T_diag (G : List ℝ → ℝ) (gd : ℝ) (zpre zpost τpre τpost : List ℝ) (t τd : ℝ)
    (h : zpre.length = τpre.length)
    (hG : HasDerivAt (fun w => G (applyT (.diag τpre) zpre ++ w :: applyT (.diag τpost) zpost)) gd (t * τd)) :
    HasDerivAt (fun s => G (applyT (.diag (τpre ++ τd :: τpost)) (zpre ++ s :: zpost))) (gd * τd) t := by
  simp only [applyT_diag_split h]
  exact hG.comp (h := (· * τd)) t (hasDerivAt_mul_const τd)

/-- **C04(5b)** end to end for a diagonal transform, every kernel evaluated on transformed points (L2, product, Lpq,
sum-power): entry `d` of the tensor row returned by `fgrad` (what `get_function_grads(x, z, coefs, mat)` returns for a
vector `mat`) is `∂/∂z_d` of the predictor `z ↦ Σ_i c_i k(x_i ⊙ τ, z ⊙ τ)` of the *raw* point. -/
theorem predictor_diag_grad_partial (k : Kind) (hk : k ≠ .light) (P : Params ℝ) (g : Guards P)
    (zpre zpost τpre τpost : List ℝ) (t τd : ℝ) (c : List ℝ) (xs : List (List ℝ))
    (hτ : zpre.length = τpre.length) (hτ' : zpost.length = τpost.length)
    (hus : ∀ u ∈ xs.map (applyT (.diag (τpre ++ τd :: τpost))), ∃ upre a upost, u = upre ++ a :: upost ∧
      zpre.length = upre.length ∧ zpost.length = upost.length ∧
      CoordOK k P u (applyT (.diag (τpre ++ τd :: τpost)) (zpre ++ t :: zpost)) (t * τd - a)) :
    HasDerivAt (fun s => predictRow k P (.diag (τpre ++ τd :: τpost)) xs c (zpre ++ s :: zpost))
      ((((fgrad k P (.diag (τpre ++ τd :: τpost)) xs [zpre ++ t :: zpost] [c]).headD []).headD []).getD zpre.length 0) t := by
  have hl1 : (applyT (.diag τpre) zpre).length = zpre.length := applyT_diag_length hτ
  have hl2 : (applyT (.diag τpost) zpost).length = zpost.length := applyT_diag_length hτ'
  simp only [predictRow_of_ne_light hk, fgrad_of_ne_light hk, List.map_cons, List.map_nil, List.headD_cons]
  rw [applyT_diag_split hτ] at hus ⊢
  have hinner := predictor_grad_partial k P g _ _ (t * τd) c _ fun u hu => by
    obtain ⟨upre, a, upost, h1, h2, h3, h4⟩ := hus u hu
    exact ⟨upre, a, upost, h1, hl1.trans h2, hl2.trans h3, h4⟩
  exact (chain_T_diag (fun v => fval (kval k P) c _ v) _ zpre zpost τpre τpost t τd hτ hinner).congr_deriv
    (by rw [applyT_diag_getD _ hτ.symm, hl1])

/-- **C04(5c)** `chain_T`, full symmetric transform (stated for a function on `Fin n → ℝ`): if `G` is differentiable
at `zT` with derivative `G'`, then `∂/∂z_d [G(zT)] = Σ_e (∂_e G)(zT)·T_{e,d}` = entry `d` of `(∇G)(zT)·T`, which is what
`_transform_m(grads, mat)` computes; symmetry of `T` is what makes `grads @ mat` (rather than `grads @ matᵀ`) right. -/
theorem chain_T_full {n : ℕ} (T : Matrix (Fin n) (Fin n) ℝ) (hT : T.IsSymm) (G : (Fin n → ℝ) → ℝ)
    (G' : (Fin n → ℝ) →L[ℝ] ℝ) (z : Fin n → ℝ) (d : Fin n) (hG : HasFDerivAt G G' (Matrix.vecMul z T)) :
    HasDerivAt (fun s => G (Matrix.vecMul (Function.update z d s) T))
      (Matrix.vecMul (fun e => G' (Pi.single e 1)) T d) (z d) := by
  rw [clm_eq_gradFn G'] at hG
  have h := hasFDerivAt_comp_vecMul T hT G _ z hG
  -- the point `z` as the value at `s = z d` of the curve `s ↦ update z d s`
  rw [← Function.update_eq_self d z] at h
  have h2 := h.comp_hasDerivAt (z d) (hasDerivAt_update z d (z d))
  rwa [gradFn_apply, dotProduct_single_one] at h2

/-- **C04(5d)** the model's `x @ T` on lists is `Matrix.vecMul`, entry by entry (ties (5c) to `applyT (.full …)`). -/
theorem model_full_transform_is_vecMul {n : ℕ} (T : Matrix (Fin n) (Fin n) ℝ) (x : Fin n → ℝ) (e : Fin n) :
    (applyT (.full (List.ofFn fun i => List.ofFn (T i))) (List.ofFn x))[(e : ℕ)]? = some (Matrix.vecMul x T e) :=
  applyT_full_entry T x e

/-- Non-vacuity of (5c): a symmetric non-diagonal matrix. -/
example : (Matrix.of ![![2, 1], ![1, 3]] : Matrix (Fin 2) (Fin 2) ℝ).IsSymm := by
  ext i j; fin_cases i <;> fin_cases j <;> rfl

/-- **C04(6a)** `self_term_zero`: for every kernel and every exponent, a center coinciding with the evaluation point
contributes exactly 0 to the gradient (every entry of its term is 0). -/
theorem self_term_zero (k : Kind) (P : Params ℝ) (u : List ℝ) : ∀ gd ∈ pairGrad k P u u, gd = 0 := by
  intro gd hg
  -- every gradient is `(vsub u u).map f` with `f 0 = 0`, under an `if` or not; the simp list names all of them
  have key : ∀ (f : ℝ → ℝ), f 0 = 0 → gd ∈ List.map f (vsub u u) → gd = 0 := by
    intro f hf hg
    rw [vsub_self, List.map_replicate] at hg
    rw [List.eq_of_mem_replicate hg, hf]
  cases k <;> simp only [pairGrad, gradL2, gradProd, gradLpq, gradSumPower] at hg
  case sumPower => exact key _ (by simp only [sgnPow_zero, mul_zero, ite_self]) hg
  all_goals
    split_ifs at hg
    · exact key _ rfl hg
    · exact key _ (by simp only [sgnPow_zero, mul_zero]) hg

/-- **C04(6b)** the masks do fire at a coincidence: distance, `‖Δ‖_q` and `‖Δ‖_p` are 0 `< eps` there. -/
theorem masks_fire_at_coincidence (P : Params ℝ) (g : Guards P) (u : List ℝ) :
    Real.sqrt (sqDist u u) < P.eps ∧ pNorm P.q (vsub u u) < P.eps ∧ pNorm P.p (vsub u u) < P.eps := by
  have hn : ∀ p : ℝ, 0 < p → pNorm p (vsub u u) < P.eps := by
    intro p hp
    unfold pNorm
    rw [pSum_self _ hp.ne', rpow_real, Real.zero_rpow (one_div_ne_zero hp.ne')]
    exact g.eps_pos
  exact ⟨by rw [sqDist_self, Real.sqrt_zero]; exact g.eps_pos, hn _ g.q_pos, hn _ g.p_pos⟩

/-- **C04(6c)** finiteness for `q ≥ 1`: the (unmasked) L2 term stays bounded as the point approaches the center,
`|M_ij·δ| ≤ (q/L^q)·dist^{q−1}` for every coordinate difference `|δ| ≤ dist` (for `q < 1` the bound blows up, which is
why the mask exists). -/
theorem l2_term_finite (P : Params ℝ) (g : Guards P) (hq : 1 ≤ P.q) (dist δ : ℝ) (hd : 0 < dist) (hδ : |δ| ≤ dist) :
    |l2Factor P dist * δ| ≤ P.q / P.L ^ P.q * dist ^ (P.q - 1) := by
  have hLq : 0 < P.L ^ P.q := Real.rpow_pos_of_pos g.L_pos _
  have hc : 0 ≤ P.q / P.L ^ P.q := div_nonneg (zero_le_one.trans hq) hLq.le
  have hp : 0 ≤ dist ^ (P.q - 2) := Real.rpow_nonneg hd.le _
  have he : Real.exp (-(dist ^ P.q) / P.L ^ P.q) ≤ 1 :=
    Real.exp_le_one_iff.2 (div_nonpos_of_nonpos_of_nonneg (neg_nonpos.2 (Real.rpow_nonneg hd.le _)) hLq.le)
  have e : dist ^ (P.q - 1) = dist ^ (P.q - 2) * dist := by
    rw [← Real.rpow_add_one hd.ne']; congr 1; ring
  have h1 : |l2Factor P dist| ≤ P.q / P.L ^ P.q * dist ^ (P.q - 2) := by
    simp only [l2Factor, rpow_real, exp_real, abs_mul, abs_neg, abs_of_nonneg hc, abs_of_nonneg hp, Real.abs_exp]
    exact mul_le_mul_of_nonneg_right (mul_le_of_le_one_right hc he) hp
  rw [abs_mul, e, ← mul_assoc]
  exact mul_le_mul h1 hδ (abs_nonneg δ) (mul_nonneg hc hp)

/-- Gradient vector as a continuous linear functional on `ℝⁿ`. -/
noncomputable def gradCLM {n : ℕ} (gv : List ℝ) : (Fin n → ℝ) →L[ℝ] ℝ :=
  ∑ e : Fin n, gv.getD e 0 • (ContinuousLinearMap.proj e : (Fin n → ℝ) →L[ℝ] ℝ)

/-- A transform the property quantifies over: none, a vector, or a symmetric matrix. -/
def SymmTransform (n : ℕ) : Transform ℝ → Prop
  | .none => True
  | .diag τ => τ.length = n
  | .full rows => ∃ T : Matrix (Fin n) (Fin n) ℝ, T.IsSymm ∧ rows = List.ofFn fun i => List.ofFn (T i)

/-- The point does not coincide with the center in the sense each kernel needs (transformed coordinates). -/
def GeneralPosition {n : ℕ} (k : Kind) (P : Params ℝ) (T : Transform ℝ) (x z : Fin n → ℝ) : Prop :=
  match k with
  | .l2 => P.eps ≤ Real.sqrt (sqDist (applyT T (List.ofFn x)) (applyT T (List.ofFn z)))
  | .light => P.eps ≤ Real.sqrt (lightSq T (List.ofFn x) (List.ofFn z))
  | _ => ∀ e : Fin n, P.eps ≤ |(applyT T (List.ofFn z)).getD e 0 - (applyT T (List.ofFn x)).getD e 0|

/-- **C04, full strength (proved: `C04_full_holds`)**: for every kernel, every admissible parameter set and transform, every set of
centers and coefficient row, at every point in general position the predictor `z ↦ f(z)` of the raw point is Fréchet
differentiable and the row of the tensor returned by `fgrad` is its gradient. -/
def C04_full : Prop :=
  ∀ (n : ℕ) (k : Kind) (P : Params ℝ) (T : Transform ℝ) (xs : List (Fin n → ℝ)) (c : List ℝ) (z : Fin n → ℝ),
    Guards P → SymmTransform n T → (∀ x ∈ xs, GeneralPosition k P T x z) →
    HasFDerivAt (fun w : Fin n → ℝ => predictRow k P T (xs.map List.ofFn) c (List.ofFn w))
      (gradCLM (((fgrad k P T (xs.map List.ofFn) [List.ofFn z] [c]).headD []).headD [])) z

theorem exists_actsAs {n : ℕ} {T : Transform ℝ} (hT : SymmTransform n T) :
    ∃ M : Matrix (Fin n) (Fin n) ℝ, ActsAs T M ∧ M.IsSymm := by
  cases T with
  | none => exact ⟨1, actsAs_none, Matrix.isSymm_one⟩
  | diag τ =>
    have h := actsAs_diag fun e : Fin n => τ.getD e 0
    rw [← eq_ofFn_getD τ hT 0] at h
    exact ⟨_, h, Matrix.isSymm_diagonal _⟩
  | full rows =>
    obtain ⟨M, hM, rfl⟩ := hT
    exact ⟨M, actsAs_full M, hM⟩

/-- **C04, full strength (proved)**: `C04_full` holds — every kernel, every admissible parameter set, no transform / a
vector / a symmetric matrix, every set of centers and coefficient row, every point in general position.  The transform
acts as a symmetric matrix `M`; the memory-light kernel is `light_isGradAt`, every other one `predictRow_isGradAt`
at the images under `M`. -/
theorem C04_full_holds : C04_full := by
  intro n k P T xs c z g hT hgp
  rcases Nat.eq_zero_or_pos n with rfl | hn
  · -- `ℝ⁰` is a point: every function is differentiable with every derivative
    exact (hasFDerivAt_of_subsingleton _ z).congr_fderiv (Subsingleton.elim _ _)
  have : NeZero n := ⟨hn.ne'⟩
  obtain ⟨M, hact, hsym⟩ := exists_actsAs hT
  -- `gradCLM gv` is `gradFn fun e => gv.getD e 0` by definition, so the goal is an `IsGradAt`
  by_cases hk : k = .light
  · subst hk
    exact light_isGradAt P g.eps_pos hact hsym xs c z hgp
  · refine predictRow_isGradAt k hk P g.eps_pos g.p_pos g.cmix_nonneg g.cmix_lt_one hact hsym xs c z fun x hx => ?_
    -- `GeneralPosition`, read at the images under `M`: `eps ≤ dist` for L2, `eps ≤ |Δ_e|` for every `e` otherwise
    have h := hgp x hx
    simp only [GeneralPosition, hact x, hact z, getD_ofFn] at h
    cases k with
    | l2 => exact fun _ => not_lt.2 h
    | light => exact absurd rfl hk
    | prod | lpq | sumPower => exact allCoordOK_of_abs_ge (by decide) P g.eps_pos g.q_pos g.p_pos h

/-- Non-vacuity of `C04_full_holds`: a point in general position w.r.t. a center (coordinate-wise kernels, no transform;
every coordinate differs by at least `eps`), together with the satisfiable `Guards` above. -/
example : GeneralPosition (n := 2) .prod { L := 3, q := 0.7, p := 1.5, eps := 1e-10, cmix := 0.2, power := 2 } .none
    ![0, 0] ![3, 4] := by
  intro e
  simp only [applyT, getD_ofFn]
  fin_cases e <;> norm_num

/-- **C04 over the regenerated source, L2 and memory-light kernels.**  The statements of
`LaplaceKernel._get_function_grad_impl` / `LightLaplaceKernel.get_function_grads` as they are written *now* (translated into
`Gen.GradOps` on every run: `kernel_mat = dists ** q`, the in-place `mul_ / exp_ / clamp_ / pow_`, the mask `dists >= eps`, the
products of the tensors, the final `einsum` difference) compute, for every kernel parameter, transform, set of centers, query
points and coefficient matrix, exactly the closed-form gradient tensor of `Model/Grad.lean` — the tensor that
`C04_full_holds` shows to be the Fréchet derivative of the predictor. -/
theorem gen_fgrad_eq_model (light : Bool) (P : Params ℝ) (T : Transform ℝ) (xs zs : List (List ℝ))
    (coefs : List (List ℝ)) :
    GradGen.fgrad light P T xs zs coefs = fgrad (if light then .light else .l2) P T xs zs coefs := by
  have h2 : GradGen.gradL2 P = gradL2 P := funext fun u => funext fun v => GradGen.gradL2_eq P u v
  have hl : GradGen.gradLight P T = gradLight P T := funext fun x => funext fun z => GradGen.gradLight_eq P T x z
  have hp : pairGrad .l2 P = gradL2 P := rfl
  cases light <;> simp [GradGen.fgrad, fgrad, h2, hl, hp]

/-- The weight the regenerated program of the L2 kernel gives a pair at (prepared) distance `d ≥ 0`: the stated factor
`−(q/L^q)·k·d^{q−2}`, and exactly `0` for a pair closer than `eps` (the coinciding center contributes nothing). -/
theorem gen_l2_weight_eq (P : Params ℝ) {d : ℝ} (hd : 0 ≤ d) :
    TensorProg.weight (Gen.GradOps.laplaceGrad (GradGen.toOps P)) d = if d < P.eps then 0 else l2Factor P d :=
  GradGen.weight_laplace P hd

/-- **C04 over the regenerated source, product / Lpq / sum-power kernels.**  These three routines hand a closure `forward_func` to
`torch.autograd` (trusted).  The closure as it is written *now* (translated binding by binding into `Gen.FwdOps` on every run: the
`cdist` with its norm or the coordinate differences, the powers, the masks `>= eps`, `clamp_min`, `where`, `exp`, the mean over
the feature axis, the mixing constant and the outer power) evaluates, for every pair of a center and a query point in general
position, exactly the closed-form kernel of `Model/Grad.lean` — the function whose Fréchet derivative `C04_full_holds` identifies
with the returned gradient. -/
theorem gen_forward_eq_model (P : Params ℝ) (hL : 0 ≤ P.L) (hq : 0 < P.q) (u v : List ℝ) :
    (P.eps ≤ pNorm P.q (vsub v u) → FwdGen.kProd P u v = kProd P u v) ∧
    (P.eps ≤ pNorm P.p (vsub v u) → FwdGen.kLpq P u v = kLpq P u v) ∧
    ((∀ t ∈ vsub v u, P.eps ≤ |t|) → FwdGen.kSumPower P u v = kSumPower P u v) :=
  ⟨FwdGen.kProd_eq P hL hq u v, FwdGen.kLpq_eq P hL u v, FwdGen.kSumPower_eq P hL u v⟩

/-- … and a pair closer than `eps` (in the kernel's own norm) enters the differentiated sum as the constant 1: the coinciding
center contributes exactly zero to the gradient. -/
theorem gen_forward_masked_constant (P : Params ℝ) (hL : 0 ≤ P.L) (u v : List ℝ) :
    (pNorm P.q (vsub v u) < P.eps → FwdGen.kProd P u v = 1) ∧
    (pNorm P.p (vsub v u) < P.eps → FwdGen.kLpq P u v = 1) :=
  ⟨fun h => (FwdGen.pairValue_eq P hL (.inl rfl) _).trans (if_pos h),
    fun h => (FwdGen.pairValue_eq P hL (.inr rfl) _).trans (if_pos h)⟩

end Xrfmv.Props.C04
