/-
C14 — Learned feature matrix is the normalised AGOP with a consistent square root.

Statements are about `Xrfmv.Agop` (`Model/Agop.lean`), the model the driver executes on `Float` and the correspondence
check compares with `RFM.fit_M` / `model.M` / `model.sqrtM` / `agop_best_model`.  `G` is the list of gradient rows
(outputs × points merged); a batching is a list of lists of rows.  Exact real arithmetic; the `1e-30` regulariser of the
normalisation is idealised to `0` and the `1e-8·I` jitter of the SVD is part of the check's allowance, not of the model.
The eigen-decomposition is an oracle `(U, s)` with contract `UᵀU = I`, `s ≥ 0`.
-/
import Xrfmv.Lemmas.Agop
import Xrfmv.Gen.FitM

namespace Xrfmv.Props.C14
open Xrfmv.Agop Xrfmv.Grad

/-- **C14 `agop_batch_additive`** (full mode): without centring, accumulating the per-batch matrices over any
batching gives the AGOP of all rows — so any two partitions of the same rows into consecutive batches agree. -/
theorem agop_batch_additive (d : ℕ) (b₁ b₂ : List (List (List ℝ))) (h : b₁.flatten = b₂.flatten) :
    accumFull d false b₁ = agopFull d b₁.flatten ∧ accumFull d false b₁ = accumFull d false b₂ := by
  refine ⟨accumFull_uncentred d b₁, ?_⟩
  rw [accumFull_uncentred, accumFull_uncentred, h]

/-- **C14 `agop_batch_additive`, permutations**: the AGOP does not depend on the order of the rows either (hence
not on which points share a batch). -/
theorem agop_perm_invariant (d : ℕ) (G₁ G₂ : List (List ℝ)) (h : G₁.Perm G₂) :
    agopFull d G₁ = agopFull d G₂ ∧ agopDiag d G₁ = agopDiag d G₂ :=
  ⟨List.map_congr_left fun i _ => List.map_congr_left fun j _ => gram_perm h i j,
   List.map_congr_left fun i _ => gram_perm h i i⟩

/-- **C14** diagonal analogue of batch additivity, and diagonal mode is the diagonal of the full AGOP. -/
theorem agop_batch_additive_diag (d : ℕ) (b₁ b₂ : List (List (List ℝ))) (h : b₁.flatten = b₂.flatten) :
    accumDiag d false b₁ = accumDiag d false b₂ ∧
    ∀ i < d, (accumDiag d false b₁).getD i 0 = entry (accumFull d false b₁) i i := by
  refine ⟨by rw [accumDiag_uncentred, accumDiag_uncentred, h], fun i hi => ?_⟩
  rw [accumDiag_uncentred, accumFull_uncentred, getD_agopDiag d _ i hi, entry_agopFull d _ i i hi hi]

/-- Non-vacuity: two different batchings of the same three rows. -/
example : ([[[1, 0], [0, 1]], [[2, 1]]] : List (List (List ℝ))).flatten = [[[1, 0]], [[0, 1], [2, 1]]].flatten := rfl

/-- **C14 `agop_symm`**: the accumulated (uncentred or centred) matrix of one batch is symmetric, entry by entry. -/
theorem agop_symm (d : ℕ) (G : List (List ℝ)) (i j : ℕ) (hi : i < d) (hj : j < d) :
    entry (agopFull d G) i j = entry (agopFull d G) j i := by
  rw [entry_agopFull d G i j hi hj, entry_agopFull d G j i hj hi, gram_symm]

/-- **C14 `agop_psd`**: `xᵀ(GᵀG)x = Σ_rows (g·x)² ≥ 0`. -/
theorem agop_psd (d : ℕ) (G : List (List ℝ)) (x : Fin d → ℝ) :
    quad (agopMat d G) x = vsum (G.map fun g => (∑ i : Fin d, g.getD i 0 * x i) ^ 2) ∧ 0 ≤ quad (agopMat d G) x := by
  rw [agopMat_quad]
  exact ⟨rfl, List.sum_nonneg (List.forall_mem_map.2 fun _ _ => sq_nonneg _)⟩

/-- **C14 `psd_max_on_diag`**: for a symmetric matrix with non-negative quadratic form the largest entry is attained on
the diagonal and is `≥ 0` (indeed `|M_ij| ≤ (M_ii + M_jj)/2`). -/
theorem psd_max_on_diag {d : ℕ} (hd : 0 < d) (M : Fin d → Fin d → ℝ) (hs : ∀ i j, M i j = M j i)
    (hp : ∀ x, 0 ≤ quad M x) :
    (∀ i j, |M i j| ≤ (M i i + M j j) / 2) ∧ ∃ k : Fin d, 0 ≤ M k k ∧ ∀ i j, M i j ≤ M k k := by
  have : Nonempty (Fin d) := ⟨⟨0, hd⟩⟩
  obtain ⟨k, _, hk⟩ := Finset.exists_max_image Finset.univ (fun i => M i i) Finset.univ_nonempty
  have hmax := psd_abs_le_diag_max M hs hp fun i => hk i (Finset.mem_univ _)
  exact ⟨psd_entry_le M hs hp, k, (abs_nonneg _).trans (hmax k k), fun i j => (le_abs_self _).trans (hmax i j)⟩

/-- The same for the AGOP of any rows (it is symmetric PSD by `agop_symm`, `agop_psd`). -/
theorem agop_max_on_diag {d : ℕ} (hd : 0 < d) (G : List (List ℝ)) :
    ∃ k : Fin d, 0 ≤ agopMat d G k k ∧ ∀ i j, agopMat d G i j ≤ agopMat d G k k :=
  (psd_max_on_diag hd (agopMat d G) (agopMat_symm d G) fun x => (agop_psd d G x).2).2

/-- **C14 `normalised_max_one`** (the `1e-30` regulariser idealised to 0): a non-zero symmetric PSD matrix divided by
its largest entry has largest entry exactly 1, attained on the diagonal. -/
theorem normalised_max_one {d : ℕ} (hd : 0 < d) (M : Fin d → Fin d → ℝ) (hs : ∀ i j, M i j = M j i)
    (hp : ∀ x, 0 ≤ quad M x) (hne : ∃ i j, M i j ≠ 0) :
    ∃ k : Fin d, 0 < M k k ∧ (∀ i j, M i j ≤ M k k) ∧ M k k / M k k = 1 ∧ ∀ i j, M i j / M k k ≤ 1 := by
  obtain ⟨_, k, _, hk⟩ := psd_max_on_diag hd M hs hp
  obtain ⟨i, j, hij⟩ := hne
  have hpos : 0 < M k k := (abs_pos.2 hij).trans_le (psd_abs_le_diag_max M hs hp (fun i => hk i i) i j)
  exact ⟨k, hpos, hk, div_self hpos.ne', fun i j => (div_le_one hpos).2 (hk i j)⟩

/-- **C14 `normalised_max_one`, on the model**: if some gradient row has a non-zero coordinate then the AGOP's largest
entry is positive and `normalise` (with regulariser 0) produces a matrix whose largest entry is 1. -/
theorem normalised_max_one_model (d : ℕ) (G : List (List ℝ)) (g : List ℝ) (hg : g ∈ G) (i : ℕ) (hi : i < d)
    (hne : g.getD i 0 ≠ 0) :
    0 < maxEntry (agopFull d G) ∧ maxEntry (normalise 0 (agopFull d G)) = 1 := by
  -- the square of that coordinate is one term of the diagonal entry `gram G i i`, an entry of the matrix
  have h2 : g.getD i 0 * g.getD i 0 ≤ gram G i i :=
    List.single_le_sum (List.forall_mem_map.2 fun _ _ => mul_self_nonneg _) _ (List.mem_map.2 ⟨g, hg, rfl⟩)
  have h : 0 < maxEntry (agopFull d G) :=
    (mul_self_pos.2 hne).trans_le (h2.trans (le_maxList _ _ (gram_mem_flatten_agopFull d G i i hi hi)))
  exact ⟨h, by rw [maxEntry_normalise _ 0 (add_nonneg h.le le_rfl), add_zero, div_self h.ne']⟩

/-- Diagonal analogue: a vector with positive largest entry, divided by it, has largest entry 1. -/
theorem normalised_max_one_diag (v : List ℝ) (hpos : 0 < maxList v) : maxList (normaliseVec 0 v) = 1 := by
  rw [maxList_normaliseVec v 0 (add_nonneg hpos.le le_rfl), add_zero, div_self hpos.ne']

/-- Non-vacuity: the AGOP of the rows `(1,0), (0,1), (1,1)`, i.e. `[[2,1],[1,2]]`, is such a matrix. -/
example : ∃ M : Fin 2 → Fin 2 → ℝ, (∀ i j, M i j = M j i) ∧ (∀ x, 0 ≤ quad M x) ∧ ∃ i j, M i j ≠ 0 :=
  ⟨agopMat 2 [[1, 0], [0, 1], [1, 1]], agopMat_symm 2 _, fun x => (agop_psd 2 _ x).2, 0, 0, by
    rw [agopMat_apply]
    show (1 : ℝ) * 1 + (0 * 0 + (1 * 1 + 0)) ≠ 0
    norm_num⟩

open Matrix in
/-- **C14 `root_squares_back`**: for an oracle decomposition with `UᵀU = I`, `s ≥ 0` the matrix `U·diag(√s)·Uᵀ` squares
back to `U·diag(s)·Uᵀ`. -/
theorem root_squares_back {d : ℕ} (U : Matrix (Fin d) (Fin d) ℝ) (s : Fin d → ℝ) (hU : Uᵀ * U = 1)
    (hs : ∀ i, 0 ≤ s i) :
    (U * Matrix.diagonal (fun i => Real.sqrt (s i)) * Uᵀ) * (U * Matrix.diagonal (fun i => Real.sqrt (s i)) * Uᵀ)
      = U * Matrix.diagonal s * Uᵀ := by
  -- `(U D Uᵀ)(U D Uᵀ) = U D (UᵀU) D Uᵀ = U D² Uᵀ`
  rw [Matrix.mul_assoc (U * _), ← Matrix.mul_assoc Uᵀ, ← Matrix.mul_assoc Uᵀ, hU, Matrix.one_mul, ← Matrix.mul_assoc,
    Matrix.mul_assoc U, Matrix.diagonal_mul_diagonal]
  simp only [Real.mul_self_sqrt (hs _)]

open Matrix in
/-- **C14 `root_squares_back`, on the model**: the list-level root `rootFromEig` (what the driver executes) of an
oracle decomposition with `UᵀU = I`, `s ≥ 0`, read as a matrix, squares back to `U·diag(s)·Uᵀ`. -/
theorem root_model_squares_back {d : ℕ} (U : Matrix (Fin d) (Fin d) ℝ) (s : Fin d → ℝ) (hU : Uᵀ * U = 1)
    (hs : ∀ i, 0 ≤ s i) :
    let R : Matrix (Fin d) (Fin d) ℝ :=
      fun i j => entry (rootFromEig (List.ofFn fun a => List.ofFn (U a)) (List.ofFn s)) i j
    R * R = U * Matrix.diagonal s * Uᵀ := by
  intro R
  have hR : R = U * Matrix.diagonal (fun i => Real.sqrt (s i)) * Uᵀ := by
    ext i j; exact rootFromEig_entry U s hs i j
  rw [hR]
  exact root_squares_back U s hU hs

/-- Diagonal analogue: the entrywise root of a non-negative vector squares back to it. -/
theorem root_squares_back_diag (m : List ℝ) (h : ∀ x ∈ m, 0 ≤ x) : (rootDiag m).map (fun x => x * x) = m := by
  rw [rootDiag, List.map_map]
  refine (List.map_congr_left fun x hx => ?_).trans (List.map_id m)
  show Real.sqrt (clamp0 x) * Real.sqrt (clamp0 x) = x
  rw [clamp0_of_nonneg x (h x hx), Real.mul_self_sqrt (h x hx)]

/-- Non-vacuity: the identity decomposition. -/
example : ((1 : Matrix (Fin 2) (Fin 2) ℝ)).transpose * 1 = 1 := by simp

def w1 : List ℚ := [1, 0]
def w2 : List ℚ := [0, 1]
def w3 : List ℚ := [2, 1]
def w4 : List ℚ := [3, -1]

/-- **C14 negative result `centred_per_batch_depends_on_partition`**: with `center_grads` the column mean is subtracted
per batch, so two batchings of the *same* four rows give different matrices — raw, normalised and in diagonal mode —
while the uncentred accumulation agrees.  Concrete witness over `ℚ`: rows `(1,0),(0,1),(2,1),(3,−1)`, one batch versus
two batches of two. -/
theorem centred_per_batch_depends_on_partition :
    ∃ (d : ℕ) (b₁ b₂ : List (List (List ℚ))), b₁.flatten = b₂.flatten ∧
      accumFull d false b₁ = accumFull d false b₂ ∧
      accumFull d true b₁ ≠ accumFull d true b₂ ∧
      normalise 0 (accumFull d true b₁) ≠ normalise 0 (accumFull d true b₂) ∧
      accumDiag d true b₁ ≠ accumDiag d true b₂ :=
  -- one batch gives `[[5, -5/2], [-5/2, 11/4]]`, two batches `[[1, -3/2], [-3/2, 5/2]]`
  ⟨2, [[w1, w2, w3, w4]], [[w1, w2], [w3, w4]], by decide +kernel⟩

/-- The used chunks reach past `total`: the one lemma that unfolds `Gen.FitM.numBatches` (goes through for `1 + t / b`,
`t / b + 1` and `(t + b) / b`). -/
theorem total_lt_numBatches_mul (total : ℕ) {bs : ℕ} (hbs : 0 < bs) :
    total < Xrfmv.Gen.FitM.numBatches total bs * bs := by
  -- as `total / bs < numBatches`, where `omega` takes the quotients as atoms; `h` relates them if `(t + b) / b` is written
  have h := Nat.add_div_right total hbs
  refine (Nat.div_lt_iff_lt_mul hbs).1 ?_
  unfold Xrfmv.Gen.FitM.numBatches
  omega

/-- **C14 (sub-sampling limit inactive)** `fit_M` adds the first `numBatches = 1 + total_points_to_sample // M_batch_size`
consecutive chunks of `M_batch_size` points (regenerated `Gen.FitM`).  Whenever `n ≤ total_points_to_sample` these chunks
contain all `n` training points for EVERY batch size `≥ 1`, so the accumulated matrix is the sum over all points and, by
`agop_batch_additive`, does not depend on the batch size.  (Above the limit the number of points used does depend on the
batch size; that is the documented sub-sampling, outside the property.) -/
theorem all_points_used (n total bs : ℕ) (hbs : 1 ≤ bs) (hn : n ≤ total) :
    n ≤ Xrfmv.Gen.FitM.numBatches total bs * bs ∧
    Xrfmv.Gen.FitM.batchesAreConsecutiveChunks = true ∧ Xrfmv.Gen.FitM.everyUsedBatchAddedOnce = true :=
  ⟨hn.trans (total_lt_numBatches_mul total hbs).le, rfl, rfl⟩

/-- **C14 (normalisation with the regulariser kept)**: for `jitter = j ≥ 0` (the code's `1e-30`) the largest entry of the
stored matrix is `m/(m+j)` with `m` the largest entry of the raw AGOP, i.e. within `j/m` of one: the idealisation
`j = 0` of `normalised_max_one` costs at most `1e-30/m`. -/
theorem normalised_max_with_jitter (M : List (List ℝ)) (j : ℝ) (hj : 0 ≤ j) (hpos : 0 < Xrfmv.Agop.maxEntry M) :
    Xrfmv.Agop.maxEntry (Xrfmv.Agop.normalise j M) = Xrfmv.Agop.maxEntry M / (Xrfmv.Agop.maxEntry M + j) ∧
    |Xrfmv.Agop.maxEntry (Xrfmv.Agop.normalise j M) - 1| ≤ j / Xrfmv.Agop.maxEntry M := by
  have hden : 0 < Xrfmv.Agop.maxEntry M + j := add_pos_of_pos_of_nonneg hpos hj
  have h := Xrfmv.Agop.maxEntry_normalise M j hden.le
  refine ⟨h, ?_⟩
  -- `m/(m+j) − 1 = −j/(m+j)` and `m ≤ m + j`
  rw [h, div_sub_one hden.ne', sub_add_cancel_left, abs_div, abs_neg, abs_of_nonneg hj, abs_of_pos hden]
  exact div_le_div_of_nonneg_left hj hpos (le_add_of_nonneg_right hj)

end Xrfmv.Props.C14
