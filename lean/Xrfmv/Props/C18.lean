/-
C18 — Fit and predict do not disturb caller data or process-wide settings.

Two halves, both thin by nature (DESIGN.md §6 C18: the theorem covers the *protocol*; aliasing inside torch
is runtime behaviour and is covered by the correspondence: `Tensor._version` and byte comparison).

(1) Process-wide settings: `bracket_restores` — every trace of the bracket grammar of
    `xRFM.fit/predict/predict_proba` (thread count) and `with_env_var` (PYTORCH_CUDA_ALLOC_CONF), nested to any
    depth and of any length, returns thread count and the variable (value or absence) to the initial state.
    The grammar is hand-modelled from xrfm.py / gpu_utils.py; real recorded traces are parsed against it by the
    driver (`Effects.accept`, proved sound in Lemmas/Effects.lean) on every run.

(2) Caller data: `inplace_sites_fresh_or_known` — every in-place tensor operation in the REGENERATED inventory
    `Gen.InPlace.sites` (extract/gen_inplace.py; recomputed from the current kernels.py, utils.py,
    recursive_feature_machine.py, xrfm.py, class_conversion.py on every run) targets a freshly allocated tensor
    according to the translator's alias pass, or is one of four allow-listed sites whose justification is below and
    is itself checked against the regenerated call/return inventories (`lstsq_kernel_matrix_is_fresh`,
    `matrix_power_arguments_known`).  A new in-place operation on an argument changes `Gen.InPlace.sites` and breaks
    the `decide`.
-/
import Xrfmv.Lemmas.Effects
import Xrfmv.Gen.InPlace

namespace Xrfmv.Props.C18
open Xrfmv.Effects
open Xrfmv.Gen.InPlace

/-- **C18 (settings)** For every initial process state and every well-bracketed event trace — arbitrary nesting
depth and length — running the trace leaves the state unchanged: the torch thread count is what it was and
PYTORCH_CUDA_ALLOC_CONF has its previous value *or is absent again*. -/
theorem bracket_restores (s : State) (t : List Event) (h : WellBracketed s t) : exec s t = s :=
  exec_wellBracketed h

/-- The two components separately, as the property states them. -/
theorem bracket_restores_threads_and_env (s : State) (t : List Event) (h : WellBracketed s t) :
    (exec s t).threads = s.threads ∧ (exec s t).env = s.env := by
  rw [bracket_restores s t h]; exact ⟨rfl, rfl⟩

/-- Non-vacuity: `xRFM(n_threads=3).fit` on a one-leaf tree with `iters=1` starting from 8 threads and the variable
absent: the thread bracket around one `RFM.fit` env bracket that contains two `RFM.predict` env brackets.  The inner
brackets restore the *outer* value `expandable_segments:True`, the outer one deletes the variable. -/
example :
    WellBracketed ⟨8, none⟩
      [.getThreads, .setThreads 3,
         .envGet, .envSet "expandable_segments:True",
           .envGet, .envSet "expandable_segments:True", .envSet "expandable_segments:True",
           .envGet, .envSet "expandable_segments:True", .envSet "expandable_segments:True",
         .envDel,
       .setThreads 8] :=
  flatten_wellBracketed
    (.thr 3 (.env "expandable_segments:True"
              (.env "expandable_segments:True" .nil (.env "expandable_segments:True" .nil .nil)) .nil) .nil)
    ⟨8, none⟩

/-- … and with the variable initially set to a user value, which the outermost bracket puts back. -/
example : (accept ⟨4, some "max_split_size_mb:64"⟩
      [.envGet, .envSet "expandable_segments:True", .envSet "max_split_size_mb:64"]).toOption
    = some ⟨4, some "max_split_size_mb:64"⟩ := by decide +kernel

/-- In-place sites whose target the intraprocedural pass cannot classify as fresh, with the reason each is
harmless for *caller* data (features / targets handed to `fit`, `predict`, `predict_proba`, `get_grads`):

* `utils.py stable_matrix_power: M.diagonal().add_(1e-8)` and `M[M<0] = 0.` (1-D branch) mutate the function's
  ARGUMENT.  Who passes what is the regenerated `callArgs` (see `matrix_power_arguments_known`):
  `RFM.fit_M` passes `scaled_M = M / (M.max() + 1e-30)` — fresh; `xRFM._build_tree` passes `Xcov = Xb.T @ Xb` —
  fresh — or `M = self._get_agop_on_subset(...)`, i.e. `agop_best_model` of a throw-away split model, which is the
  value returned by `RFM.fit_M(..., inplace=False)` — fresh per `returns`; `avg_M` only exists for
  `n_tree_iters > 0` (not modelled, DESIGN §5) and is `torch.stack(...).mean(...)`.  Every one is a feature
  *matrix* (d×d AGOP / covariance) computed by the library, never a caller array.  Side remark (not a C18
  violation, recorded in evidence): the stored `self.M` of a leaf is therefore `scaled_M` *with* `1e-8` added to
  its diagonal, and the public helper `xrfm.rfm_src.matrix_power` mutates the matrix a user passes to it.
* `recursive_feature_machine.py RFM.fit_predictor_lstsq: kernel_matrix.diagonal().add_(reg)` (twice) and
  `torch.linalg.cholesky(kernel_matrix, out=kernel_matrix)`: `kernel_matrix = self.kernel(centers, centers)`
  (`aliasBindings`), `RFM.kernel` returns `self.kernel_obj.get_kernel_matrix(...)`, which returns
  `self._get_kernel_matrix_impl(...)` or `self._get_kernel_matrix_categorical_impl(...)` (`delegates`), and every
  CPU implementation of those two returns a fresh matrix (`returns`): `lstsq_kernel_matrix_is_fresh`. -/
def allowList : List (String × String × String) := [
  ("utils.py", "stable_matrix_power", "M.diagonal().add_"),
  ("utils.py", "stable_matrix_power", "M[...] ="),
  ("recursive_feature_machine.py", "RFM.fit_predictor_lstsq", "kernel_matrix.diagonal().add_"),
  ("recursive_feature_machine.py", "RFM.fit_predictor_lstsq", "out=kernel_matrix")]

/-- **C18 (caller data, static half)** Every in-place tensor operation of the regenerated inventory targets a
tensor the alias pass classifies as freshly allocated in the same function, or is an allow-listed site. -/
theorem inplace_sites_fresh_or_known :
    ∀ s ∈ sites, s.2.2.2 = Prov.fresh ∨ (s.1, s.2.1, s.2.2.1) ∈ allowList := by
  decide +kernel

/-- Justification of the `fit_predictor_lstsq` entries, over the regenerated inventories: the only binding of
`kernel_matrix` is a call of `self.kernel`; `RFM.kernel` delegates to `Kernel.get_kernel_matrix`, that to the two
`_get_kernel_matrix*_impl` methods only, and each CPU implementation of those returns a fresh tensor. -/
theorem lstsq_kernel_matrix_is_fresh :
    (("recursive_feature_machine.py", "RFM.fit_predictor_lstsq", "kernel_matrix", "self.kernel") ∈ aliasBindings ∧
     ∀ b ∈ aliasBindings, b.2.1 = "RFM.fit_predictor_lstsq" → b.2.2.1 = "kernel_matrix" → b.2.2.2 = "self.kernel") ∧
    (("recursive_feature_machine.py", "RFM.kernel", "self.kernel_obj.get_kernel_matrix") ∈ delegates ∧
     ∀ d ∈ delegates, d.2.1 = "RFM.kernel" → d.2.2 = "self.kernel_obj.get_kernel_matrix") ∧
    ((∃ d ∈ delegates, d.2.1 = "Kernel.get_kernel_matrix") ∧
     ∀ d ∈ delegates, d.2.1 = "Kernel.get_kernel_matrix" →
       d.2.2 = "self._get_kernel_matrix_impl" ∨ d.2.2 = "self._get_kernel_matrix_categorical_impl") ∧
    (∀ r ∈ returns, r.2.2.1 = "_get_kernel_matrix_impl" ∨ r.2.2.1 = "_get_kernel_matrix_categorical_impl" →
       r.2.2.2 = Prov.fresh) := by
  decide +kernel

/-- Justification of the `stable_matrix_power` entries, over the regenerated inventories: every matrix handed to
`matrix_power` / `stable_matrix_power` / `_generate_projection_from_M` is fresh at the call, or is one of the four
pass-through arguments traced in the doc-comment of `allowList`; the one of them that is bound locally comes from
`self._get_agop_on_subset`, and `RFM.fit_M` (whose return value that is) returns a fresh tensor. -/
theorem matrix_power_arguments_known :
    (∀ c ∈ callArgs, c.2.2.2.2 = Prov.fresh ∨
        (c.2.1, c.2.2.2.1) ∈ [("matrix_power", "M"), ("xRFM._generate_projection_from_M", "M"),
                              ("xRFM._build_tree", "avg_M"), ("xRFM._build_tree", "M")]) ∧
    (∀ b ∈ aliasBindings, b.2.1 = "xRFM._build_tree" → b.2.2.1 = "M" → b.2.2.2 = "self._get_agop_on_subset") ∧
    (∀ b ∈ aliasBindings, b.2.1 = "xRFM._build_tree" → b.2.2.1 = "avg_M" → b.2.2.2 = "<parameter>") ∧
    (∀ r ∈ returns, r.2.1 = "RFM" → r.2.2.1 = "fit_M" → r.2.2.2 = Prov.fresh) := by
  decide +kernel

/-- Non-vacuity of (2): the inventory is not empty and does contain kernel arithmetic (in-place operations on fresh
tensors in `kernels.py`, wherever a refactoring may have put them). -/
example : (sites.any fun s => s.1 == "kernels.py" && s.2.2.2 == Prov.fresh) = true ∧ 40 ≤ sites.length := by
  decide +kernel

end Xrfmv.Props.C18
