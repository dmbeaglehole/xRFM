/-
C07 — Every training sample is used exactly once: as a center or as leaf validation.

Model: `Xrfmv.BuildIndex.build`, `_build_tree` + `_get_balanced_split` + `_refill_val_set` on index lists,
over the regenerated `Gen.Split` / `Gen.Refill`; `torch.sort` and `torch.randperm` are oracles whose only
assumed contract is "returns a permutation of `range n`" (checked on every recorded value by the
correspondence).  Theorems hold for every depth, every oracle meeting the contract, every routed
validation count.  `ok = true` (no assertion failure, enough fuel) is an hypothesis of the first theorems;
`construction_ok` discharges it from C06's result for the size skeleton (the two models build trees of the same
shape, `Lemmas/ShapeAgree`), and the example at the end exhibits a concrete run satisfying it.
-/
import Xrfmv.Lemmas.ShapeAgree

namespace Xrfmv.Props.C07
open Xrfmv.BuildIndex Xrfmv.Gen.Split Xrfmv.Gen.Refill

/-- **C07 (exactly once, zero overlap)** The centers and moved samples of all leaves together are a
permutation of `0..n-1`: no training sample is dropped, none is in two leaves, none is both a center and a
validation sample. -/
theorem every_sample_exactly_once (cfg : Cfg) (O : Oracles) (hc : Contracts O) (hz : ∀ n, O.ov n = 0)
    (fuel n : Nat) (hok : (build cfg O fuel [] (List.range n) true 0).1.ok = true) :
    (build cfg O fuel [] (List.range n) true 0).1.all.Perm (List.range n) ∧
    (build cfg O fuel [] (List.range n) true 0).1.all.Nodup := by
  have h := build_all_perm cfg O hc hz fuel [] (List.range n) true 0 hok
  exact ⟨h, h.nodup_iff.mpr List.nodup_range⟩

/-- **C07 (at least once, with overlap)** With an overlap band every training sample is held by at least one
leaf, and within each leaf centers and moved samples are distinct samples. -/
theorem at_least_once_with_overlap (cfg : Cfg) (O : Oracles) (hc : Contracts O)
    (hov : ∀ n, 0 ≤ O.ov n ∧ O.ov n ≤ n) (fuel n : Nat)
    (hok : (build cfg O fuel [] (List.range n) true 0).1.ok = true) :
    (∀ x < n, x ∈ (build cfg O fuel [] (List.range n) true 0).1.all) ∧
    (∀ l ∈ (build cfg O fuel [] (List.range n) true 0).1.leaves, (l.2.1 ++ l.2.2).Nodup) :=
  ⟨fun x hx => build_all_cover cfg O hc fuel [] (List.range n) true 0 hok x (List.mem_range.mpr hx),
   build_leaf_nodup cfg O hc fuel [] (List.range n) true 0 List.nodup_range⟩

/-- **C07 (moved count)** In every leaf at most `min(refill_size − routed validation points, int(0.2·m))`
samples (`m` the leaf's samples before the refill) are moved, and none when the routed validation points
already exceed the refill size. -/
theorem moved_bound (cfg : Cfg) (O : Oracles) (hc : Contracts O) (fuel n : Nat) :
    ∀ l ∈ (build cfg O fuel [] (List.range n) true 0).1.leaves, MovedBound cfg O l := fun l hl =>
  (build_leaf_spec cfg O hc fuel [] (List.range n) true 0 l hl).2

/-- **C07 (single leaf)** A tree with a single leaf moves nothing: all samples are centers. -/
theorem single_leaf_moves_nothing (cfg : Cfg) (O : Oracles) (fuel n : Nat)
    (hleaf : shouldCreateLeaf (List.range n).length cfg.maxLeaf cfg.nsplits.isNone 0 (cfg.nsplits.getD 0) = true) :
    (build cfg O (fuel + 1) [] (List.range n) true 0).1 = .leaf [] (List.range n) [] := by
  -- `hleaf` speaks of `(List.range n).length`, which `List.length_range` would rewrite under it
  simp [build, hleaf, refillWhen, -List.length_range]

/-- **C07 (reported indices are the centers)** In the regenerated source plan the reported `train_indices`, the
feature rows and the targets of a child are indexed by the same mask, and in the refill the three are indexed
by the same kept list, the moved samples being the complementary prefix of the permutation — so the model's
single index list stands for all three. -/
theorem indices_follow_rows :
    leftChild.idx = leftChild.x ∧ leftChild.y = leftChild.x ∧ leftChild.x = .left ∧
    rightChild.idx = rightChild.x ∧ rightChild.y = rightChild.x ∧ rightChild.x = .right ∧
    leftChild.xval = leftChild.yval ∧ rightChild.xval = rightChild.yval ∧
    indicesFollowKept = true ∧ keptIsSuffix = true ∧ movedIsPrefix = true := by
  decide

/-- **C07 (the construction succeeds)** Without a forced split count, for every sort oracle meeting the permutation
contract and every overlap oracle leaving two unshared samples at each node that is split (C06: implied by
`(1 - 2f)·max_leaf_size ≥ 4`), the index-level construction with fuel `n + 1` never fails an assertion: `ok` – the
hypothesis of the theorems above – holds. -/
theorem construction_ok (cfg : Cfg) (O : Oracles) (hns : cfg.nsplits = none) (hc : Contracts O) (hov : OvOk cfg O) (n : Nat) :
    (build cfg O (n + 1) [] (List.range n) true 0).1.ok = true :=
  index_build_ok cfg O hns hc hov (n + 1) [] (List.range n) true 0 (by simp)

/-- **C07 (exactly once, unconditional form)** Zero overlap, `max_leaf_size ≥ 1`, no forced splits: for every `n` and every
oracle meeting the contracts the leaves' centers and moved samples are a permutation of `0..n-1`. -/
theorem every_sample_exactly_once_unconditional (cfg : Cfg) (O : Oracles) (hns : cfg.nsplits = none) (hL : 1 ≤ cfg.maxLeaf)
    (hc : Contracts O) (hz : ∀ n, O.ov n = 0) (n : Nat) :
    (build cfg O (n + 1) [] (List.range n) true 0).1.all.Perm (List.range n) := by
  have hov : OvOk cfg O := fun m hm => ⟨0, by rw [hz]; rfl, by omega⟩
  exact (every_sample_exactly_once cfg O hc hz (n + 1) n (construction_ok cfg O hns hc hov n)).1

/-- Non-vacuity: five samples, `max_leaf_size = 2`, identity sort/permutation oracles, refill size 1: the run is
`ok` and splits twice. -/
example :
    let cfg : Cfg := { maxLeaf := 2, nsplits := none, minVal := 1 }
    let O : Oracles := { sortO := fun _ n => List.range n, permO := fun _ n => List.range n, nvalO := fun _ => 0,
                         ov := fun _ => 0, frac := fun n => (n : Int) / 5 }
    (build cfg O 6 [] (List.range 5) true 0).1.ok = true ∧ (build cfg O 6 [] (List.range 5) true 0).1.leaves.length = 3 := by
  decide

example : Contracts { sortO := fun _ n => List.range n, permO := fun _ n => List.range n, nvalO := fun _ => 0,
                      ov := fun _ => 0, frac := fun n => (n : Int) / 5 } :=
  ⟨fun _ _ => List.Perm.refl _, fun _ _ => List.Perm.refl _⟩

end Xrfmv.Props.C07
