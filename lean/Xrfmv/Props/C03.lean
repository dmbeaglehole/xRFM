/-
C03 — Leaf model selection returns a best-validation iterate for every score history.

Statements are about `Xrfmv.FitLoop.fit`, the interpreter of the *regenerated* program
`Xrfmv.Gen.Select` (loop body, guards, snapshot plans of `RFM.fit` / `update_best_params` /
`_should_early_stop`), run on real-valued scores embedded in `EReal` (initial best `±∞`).
Iterate `i` = (weights solved in iteration `i`, feature matrix after `i` AGOP updates, bandwidth
adapted at `i`); `i = iters` is the final refit.  Unbounded: any `iters`, any score history.
-/
import Xrfmv.Lemmas.FitLoop

namespace Xrfmv.Props.C03
open Xrfmv.FitLoop

/-- The real-valued history fed to the machine. -/
noncomputable abbrev hist (s : ℕ → ℝ) : ℕ → EReal := fun n => ((s n : ℝ) : EReal)

/-- **C03(1)** With `return_best_params=True` the returned weights, feature matrix, its root and the
bandwidth all carry the tag of one *evaluated* iterate `j`, and no evaluated iterate is strictly
better than `j` in the declared direction.  (Which optimum is returned on ties is left open.) -/
theorem selected_optimal (cfg : Cfg EReal) (s : ℕ → ℝ) (μ : ℝ)
    (hrb : cfg.returnBest = true) (hmu : cfg.mult = ((μ : ℝ) : EReal)) :
    let r := fit cfg (hist s)
    ∃ j ∈ r.evals,
      r.fin = { w := some j, m := j, sq := j, bw := if cfg.adaptive then j else 0 } ∧
      ∀ k ∈ r.evals, ¬ better cfg.maximize (s k) (s j) := by
  obtain ⟨n, h⟩ := fit_spec cfg s hrb hmu
  refine ⟨argBest cfg.maximize s n, h.evals ▸ List.mem_range.2 (Nat.lt_succ_of_le (argBest_le ..)), h.fin,
    fun k hk => ?_⟩
  rw [score_argBest cfg.maximize s n]
  exact runBest_optimal cfg.maximize s n k (Nat.lt_succ_iff.1 (List.mem_range.1 (h.evals ▸ hk)))

/-- **C03(2)** The evaluated iterates are exactly `0..n`; with early stopping `n` is the *first*
iterate whose score is worse than the best so far by more than the multiplier (all earlier iterates,
and `n` itself, remain candidates by C03(1)); otherwise every iterate and the final refit (`n = iters`)
are evaluated. -/
theorem evaluated_prefix (cfg : Cfg EReal) (s : ℕ → ℝ) (μ : ℝ)
    (hrb : cfg.returnBest = true) (hmu : cfg.mult = ((μ : ℝ) : EReal)) :
    let r := fit cfg (hist s)
    ∃ n ≤ cfg.iters, r.evals = List.range (n + 1) ∧
      (∀ k < n, ¬ (cfg.earlyStop = true ∧ stopCond cfg.maximize μ s k)) ∧
      (n < cfg.iters → cfg.earlyStop = true ∧ stopCond cfg.maximize μ s n) ∧
      (r.stopped = true ↔ n < cfg.iters) := by
  obtain ⟨n, h⟩ := fit_spec cfg s hrb hmu
  exact ⟨n, h.le_iters, h.evals, h.noStopBefore, h.stopAt, h.stopped_iff⟩

/-- **C03(3)** The recorded `best_iter` is the selected iterate. -/
theorem best_iter_is_selected (cfg : Cfg EReal) (s : ℕ → ℝ) (μ : ℝ)
    (hrb : cfg.returnBest = true) (hmu : cfg.mult = ((μ : ℝ) : EReal)) :
    let r := fit cfg (hist s)
    ∃ j, r.bestIter = some j ∧ r.fin.w = some j := by
  obtain ⟨n, h⟩ := fit_spec cfg s hrb hmu
  exact ⟨_, h.bestIter, congrArg Cur.w h.fin⟩

/-- With `return_best_params=False` (not the property's case, by design of the option) the last
refit is returned and all iterates are evaluated; in particular early stopping never fires. -/
theorem returns_last (cfg : Cfg EReal) (s : ℕ → ℝ) (μ : ℝ)
    (hrb : cfg.returnBest = false) (hmu : cfg.mult = ((μ : ℝ) : EReal)) (hμ : 0 < μ) :
    let r := fit cfg (hist s)
    r.fin = { w := some cfg.iters, m := cfg.iters, sq := cfg.iters,
              bw := if cfg.adaptive then cfg.iters else 0 } ∧
    r.evals = List.range (cfg.iters + 1) ∧ r.stopped = false :=
  fit_last cfg s hrb hmu hμ

/-- Non-vacuity: the hypotheses are met by a concrete configuration (accuracy-like metric, early
stopping with multiplier 1.1, five iterations) and any history. -/
example : ∃ cfg : Cfg EReal, cfg.returnBest = true ∧ cfg.mult = (((1.1 : ℝ)) : EReal) ∧ cfg.iters = 5 :=
  ⟨{ maximize := true, returnBest := true, earlyStop := true, adaptive := true,
     mult := (((1.1 : ℝ)) : EReal), iters := 5 }, rfl, rfl, rfl⟩

end Xrfmv.Props.C03
