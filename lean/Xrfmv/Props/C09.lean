/-
C09 — Soft routing computes the documented leaf mixture.

Statements are about `Xrfmv.Soft` (Model/Soft.lean): the stack machine `buildCache` of `_build_tree_cache` and the
scalar-generic pipeline of `_predict_tree_soft` instantiated at `ℝ`, every decision of which is a definition of the
*regenerated* `Xrfmv.Gen.Soft` (push order and `took_left` flags, `(x·v − b)/(T·σ)`, sign per branch, clamp −50,
sort direction, `cumulative < keep`, `max(min(cap, n) − 1, 0)`, `position ≤ keep_count`, hard-routing predicate).
`torch.sort` is an oracle: theorems hold for EVERY permutation `perm` meeting `SortContract` (ties in any order).
Unbounded: any tree (shape, depth), any number of leaves, any row, any real `keep`, any `cap`.
-/
import Xrfmv.Lemmas.Soft

namespace Xrfmv.Props.C09
open Xrfmv.Soft Xrfmv.Gen.Soft Filter Topology

/-- **C09(0) documented weights** — for every tree and row, the log-probability the model (cache + regenerated
`nodeLogit`/`gateTerm`) assigns to the ℓ-th leaf is the sum over its root-to-leaf gates of `log σ(−z)` (left
branch) resp. `log σ(z)` (right branch) with `z = (x·v − b)/(T·σ)`, `σ(t) = 1/(1+e^{−t})`; and the weights before
truncation are the textbook soft-max `exp(ℓp_i)/Σ_j exp(ℓp_j)` of the log-probabilities clamped below at
`Gen.Soft.logClamp`. -/
theorem documented_weights {μ : Type} (T : ℝ) (t : Tree ℝ μ) (x : List ℝ) :
    rowLogPs T (buildCache t) x = (pathsSpec t).map (fun e => (e.2.map (docTerm T x)).sum) ∧
    (∀ (g : Gate ℝ) (tookLeft : Bool), docTerm T x (g, tookLeft) =
      Real.log (sigmoid (if tookLeft then -((dot x g.dir - g.thr) / (T * g.scale))
                         else (dot x g.dir - g.thr) / (T * g.scale)))) ∧
    (∀ lps : List ℝ, leafWeights lps =
      lps.map (fun v => Real.exp (max v logClamp) / (lps.map (fun v => Real.exp (max v logClamp))).sum)) := by
  refine ⟨rowLogPs_documented T t x, fun _ _ => rfl, fun lps => ?_⟩
  simp only [leafWeights_eq, clampLog_eq]

/-- **C09(1) cache** — the stack machine equals the recursion: leaf ids are `0..k−1` in left-to-right order, node
ids are `0..` in preorder with the gates of the tree, and for every leaf id the cached model and the cached path,
with its node ids looked up in the cached gate table, are that leaf's payload and its root-to-leaf gate list with
`took_left = true` exactly for left branches (`pathsSpec`).  Every tree; no depth bound. -/
theorem cache_paths {α μ : Type} (t : Tree α μ) :
    buildCache t = ⟨leavesRec t 0 0 [], gatesRec t 0⟩ ∧
    (buildCache t).leaves.map (fun e => e.1) = List.range t.nleaves ∧
    (buildCache t).gates.map (fun e => e.1) = List.range t.nodes ∧
    (buildCache t).gates.map (fun e => e.2) = t.gatesPre ∧
    (buildCache t).leaves.map (fun e => (e.2.1, resolve (buildCache t).gates e.2.2)) =
      (pathsSpec t).map (fun e => (e.1, e.2.map (fun ge => (some ge.1, ge.2)))) :=
  ⟨buildCache_eq t, cache_leafIds t, cache_gateIds t, cache_gates t, cache_resolve t⟩

/-- **C09(2) simplex** — for a non-empty list of leaf log-probabilities the soft-max weights are positive and sum to
one; after truncation and renormalisation the weights are non-negative, sum to one, and vanish on every inactive
leaf. -/
theorem weights_simplex (lps : List ℝ) (hne : lps ≠ []) (keep : ℝ) (cap : ℕ) (perm : List ℕ)
    (hs : SortContract (leafWeights lps) perm) :
    ((leafWeights lps).length = lps.length ∧ (∀ v ∈ leafWeights lps, 0 < v) ∧ (leafWeights lps).sum = 1) ∧
    ((finalWeights keep cap (leafWeights lps) perm).2.length = lps.length ∧
     (∀ v ∈ (finalWeights keep cap (leafWeights lps) perm).2, 0 ≤ v) ∧
     (finalWeights keep cap (leafWeights lps) perm).2.sum = 1 ∧
     ∀ i, i < lps.length → (finalWeights keep cap (leafWeights lps) perm).1.getD i false = false →
       (finalWeights keep cap (leafWeights lps) perm).2.getD i 0 = 0) := by
  obtain ⟨hlen, hpos, hsum⟩ := leafWeights_spec lps hne
  obtain ⟨flen, fnn, fsum, foff⟩ := finalWeights_spec keep cap _ hpos
    (List.ne_nil_of_length_pos (hlen ▸ List.length_pos_iff.mpr hne)) perm hs
  exact ⟨⟨hlen, hpos, hsum⟩, flen.trans hlen, fnn, fsum, fun i _ => foff i⟩

/-- **C09(3) kept set** — with `m = keep_count + 1`: the active leaves are the first `m` positions of the sorting
permutation, a top-`m` set by weight (every kept weight ≥ every dropped weight), never empty, `m ≤ min(cap, n)`;
no smaller top set exceeds `keep` (`top-(m−1)` mass `≤ keep`), and when `m` is below the cap the top-`m` mass reaches
`keep`.  Tie-tolerant: the proof uses only `cutoff_spec`, which `<` and `≤` in the cut-off both satisfy. -/
theorem kept_set (w : List ℝ) (hw : ∀ v ∈ w, 0 ≤ v) (hne : w ≠ []) (keep : ℝ) (cap : ℕ) (hcap : 1 ≤ cap)
    (perm : List ℕ) (hs : SortContract w perm) :
    let m := keepCount keep cap w.length (perm.map (fun i => w.getD i 0)) + 1
    (∀ i, (finalWeights keep cap w perm).1.getD i false = true ↔ i ∈ perm.take m) ∧
    1 ≤ m ∧ m ≤ min cap w.length ∧ (perm.take m).length = m ∧
    (∀ i ∈ perm.take m, ∀ j, j < w.length → j ∉ perm.take m → w.getD j 0 ≤ w.getD i 0) ∧
    (2 ≤ m → topMass w perm (m - 1) ≤ keep) ∧
    (m < min cap w.length → keep ≤ topMass w perm m) := by
  intro m
  obtain ⟨h1, h2, h3⟩ := keepCount_spec keep cap w.length (perm.map (fun i => w.getD i 0))
    (List.forall_mem_map.mpr fun i _ => getD_nonneg w hw i)
  have hm : m ≤ min cap w.length :=
    Nat.add_one_le_of_lt (Nat.lt_of_le_sub_one (lt_min hcap (List.length_pos_iff.mpr hne)) h1)
  have hmass : ∀ k, topMass w perm k = ((perm.map (fun i => w.getD i 0)).take k).sum := fun k => by
    rw [topMass, keptMass, List.map_take]
  refine ⟨keptOf_eq keep cap w perm ▸ active_iff keep cap hs, Nat.le_add_left 1 _, hm, ?_, hs.top_le m, fun h => ?_,
    fun h => ?_⟩
  · rw [List.length_take, hs.length_eq]; exact min_eq_left (hm.trans (min_le_right _ _))
  · have hk := Nat.le_of_succ_le_succ h
    have := h2 _ (Nat.sub_lt hk Nat.one_pos)
    rw [Nat.sub_add_cancel hk] at this
    rw [hmass]; exact this
  · rw [hmass]
    exact h3 (Nat.lt_sub_of_add_lt h)
      (by rw [List.length_map, hs.length_eq]; exact (Nat.lt_of_succ_lt h).trans_le (min_le_right _ _))

/-- **C09(4) convex hull** — one output coordinate of `_predict_tree_soft` lies between any bounds that hold for
the predictions of the ACTIVE leaves (in particular between their minimum and maximum). `f m` is the prediction of
leaf model `m` for the row; leaves are addressed by their left-to-right position. -/
theorem convex_hull {μ : Type} (T keep : ℝ) (cap : ℕ) (t : Tree ℝ μ) (x : List ℝ) (perm : List ℕ)
    (hs : SortContract (leafWeights (rowLogPs T (buildCache t) x)) perm) (f : μ → ℝ) (lo hi : ℝ)
    (hf : ∀ i, (finalWeights keep cap (leafWeights (rowLogPs T (buildCache t) x)) perm).1.getD i false = true →
      lo ≤ ((pathsSpec t).map (fun e => f e.1)).getD i 0 ∧ ((pathsSpec t).map (fun e => f e.1)).getD i 0 ≤ hi) :
    lo ≤ softPredict T keep cap t x perm f ∧ softPredict T keep cap t x perm f ≤ hi := by
  obtain ⟨-, hpos, hne⟩ := rowWeights_spec T t x
  obtain ⟨-, h0, h1, hoff⟩ := finalWeights_spec keep cap _ hpos hne perm hs
  simp only [softPredict, mixture, cache_preds]
  exact aggregate_convex _ _ _ h0 h1 hoff lo hi hf

/-- **C09(5) dominant leaf** — if the heaviest leaf alone exceeds `keep` (or the cap is one) exactly that leaf is
active and the output EQUALS its prediction.  (At exact equality `weight = keep` the cut-off tie decides; the
property leaves it open, so it is not part of the statement.) -/
theorem hard_when_dominant {μ : Type} (T keep : ℝ) (cap : ℕ) (t : Tree ℝ μ) (x : List ℝ) (perm : List ℕ)
    (hs : SortContract (leafWeights (rowLogPs T (buildCache t) x)) perm) (f : μ → ℝ)
    (hdom : keep < (leafWeights (rowLogPs T (buildCache t) x)).getD (perm.headD 0) 0 ∨ cap = 1) :
    (∀ i, (finalWeights keep cap (leafWeights (rowLogPs T (buildCache t) x)) perm).1.getD i false = true ↔
      i = perm.headD 0) ∧
    softPredict T keep cap t x perm f = ((pathsSpec t).map (fun e => f e.1)).getD (perm.headD 0) 0 := by
  obtain ⟨-, hpos, hne⟩ := rowWeights_spec T t x
  have hh := hs.head_mem_take hne 0
  have hk := keptOf_dominant keep cap _ (fun v hv => (hpos v hv).le) perm hdom
    (List.ne_nil_of_mem (List.mem_of_mem_take hh))
  have hmask : ∀ i, (finalWeights keep cap (leafWeights (rowLogPs T (buildCache t) x)) perm).1.getD i false = true ↔
      i = perm.headD 0 := fun i => by rw [active_iff keep cap hs, hk, List.mem_singleton]
  -- the hull of the single active leaf is a point
  obtain ⟨h1, h2⟩ := convex_hull T keep cap t x perm hs f _ _
    fun i hi => by rw [(hmask i).mp hi]; exact ⟨le_rfl, le_rfl⟩
  exact ⟨hmask, le_antisymm h2 h1⟩

/-- **C09(6) `T → 0⁺`** — for a row with no zero logit (and positive node scales) and a keep fraction below
`1/(1+(N−1)·e^{clamp})` (`clamp = −50`, `N` leaves): for all sufficiently small `T > 0` and every admissible sorting
permutation the top leaf is the hard-routed leaf and the output EQUALS the hard-routed prediction.  From
`log σ(c/T) → 0` (`c > 0`) and `log σ(−c/T) → −∞` on `𝓝[>] 0`.  The bound on `keep` is necessary because of the
clamp: every other leaf keeps the weight `e^{−50}/(1+(N−1)e^{−50})` in the limit, so for `keep` above the bound
(e.g. `keep = 1`) those leaves stay active and the limit differs from the hard prediction by at most
`N·e^{−50}` times the range of the leaf predictions (C09(4)). -/
theorem limit_T0 {μ : Type} (t : Tree ℝ μ) (x : List ℝ) (keep : ℝ) (cap : ℕ) (f : μ → ℝ)
    (hg : ∀ g ∈ t.gatesPre, 0 < g.scale ∧ dot x g.dir ≠ g.thr)
    (hkeep : keep < 1 / (1 + ((t.nleaves : ℝ) - 1) * Real.exp logClamp)) :
    ∀ᶠ T in 𝓝[>] (0 : ℝ), ∀ perm, SortContract (leafWeights (rowLogPs T (buildCache t) x)) perm →
      perm.headD 0 = hardIndex x t ∧ softPredict T keep cap t x perm f = f (hardRoute x t) := by
  filter_upwards [eventually_hard_dominant t x keep hg hkeep] with T ⟨hdom, hstrict⟩
  intro perm hs
  have hN := (rowWeights_spec T t x).1
  have hhead : perm.headD 0 = hardIndex x t :=
    hs.head_eq _ (hN ▸ hardIndex_lt x t) fun j hj => hstrict j (hN ▸ hj)
  rw [(hard_when_dominant T keep cap t x perm hs f (.inl (hhead ▸ hdom))).2, hhead]
  exact ⟨rfl, hard_pred x t f⟩

/-- The two one-variable limits behind C09(6). -/
theorem limit_T0_gates (c : ℝ) (hc : 0 < c) :
    Tendsto (fun T : ℝ => logSigmoid (c / T)) (𝓝[>] 0) (𝓝 0) ∧
    Tendsto (fun T : ℝ => logSigmoid (-(c / T))) (𝓝[>] 0) atBot :=
  ⟨logSigmoid_pos_limit c hc, logSigmoid_neg_limit c hc⟩

/-- Non-vacuity: the sorting contract is satisfiable for every row (merge sort of the positions meets it). -/
example (w : List ℝ) : SortContract w (sortPerm w) := sortPerm_contract w

/-- Non-vacuity: the hypotheses of C09(2)–(5) hold for a concrete three-leaf row with a binding truncation. -/
example : ∃ (lps : List ℝ) (keep : ℝ) (cap : ℕ) (perm : List ℕ),
    lps ≠ [] ∧ 1 ≤ cap ∧ cap < lps.length ∧ 0 < keep ∧ keep < 1 ∧ SortContract (leafWeights lps) perm :=
  ⟨[-0.1, -3, -2.5], 0.9, 2, _, List.cons_ne_nil _ _, one_le_two, Nat.lt_succ_self 2, by norm_num, by norm_num,
    sortPerm_contract _⟩

/-- Non-vacuity: the hypotheses of C09(6) hold for a concrete two-leaf tree (scale 2 ≠ 1), row `x = [1]`,
`keep = 0.4` (any negative clamp constant). -/
example : ∃ (t : Tree ℝ ℕ) (x : List ℝ) (keep : ℝ),
    (∀ g ∈ t.gatesPre, 0 < g.scale ∧ dot x g.dir ≠ g.thr) ∧ 2 ≤ t.nleaves ∧ 0 < keep ∧
    keep < 1 / (1 + ((t.nleaves : ℝ) - 1) * Real.exp logClamp) := by
  refine ⟨.node ⟨[1], 0, 2⟩ (.leaf 0) (.leaf 1), [1], 0.4,
    List.forall_mem_singleton.mpr ⟨two_pos, by norm_num [dot, sumL]⟩, Nat.le_refl 2, by norm_num, ?_⟩
  -- two leaves; `0.4 < 1/2 ≤ 1/(1 + e)`, as `e = exp clamp ≤ 1`
  have h1 : Real.exp (logClamp : ℝ) ≤ 1 := Real.exp_le_one_iff.mpr logClamp_neg.le
  show (0.4 : ℝ) < 1 / (1 + (((2 : ℕ) : ℝ) - 1) * Real.exp logClamp)
  rw [show (1 : ℝ) + (((2 : ℕ) : ℝ) - 1) * Real.exp logClamp = 1 + Real.exp logClamp by norm_num]
  exact lt_of_lt_of_le (b := 1 / 2) (by norm_num)
    (one_div_le_one_div_of_le (add_pos one_pos (Real.exp_pos _)) (one_add_one_eq_two (R := ℝ) ▸ add_le_add_right h1 1))

end Xrfmv.Props.C09
