/-
C11 — Saving and loading state preserves predictions exactly.

Model: `Xrfmv.State` – `get_state_dict` / `load_state_dict` as value plumbing over the regenerated wiring
`Gen.State` (which attribute goes under which key, which key comes back into which attribute, what is conditional
on classification, how centers are re-derived).  Values are abstract: the theorem says every value the prediction
code reads arrives unchanged, for every tree shape, depth and number of trees.
-/
import Xrfmv.Model.State

namespace Xrfmv.Props.C11
open Xrfmv.State Xrfmv.Gen.State

variable {V : Type}

/-- The regenerated model-level wiring, for each attribute `a` that predictions read: `load_state_dict` assigns `a` from
a key under which `get_state_dict` has written `a` itself.  Decided as a table because `isClass` stays a variable under the
`find?`s; the leaf and node wiring below has none and is closed by `cases a <;> rfl`. -/
theorem wiringM : ∀ isClass, ∀ a ∈ predM isClass,
    ((restoredM.find? fun r => r.attr == a && (!r.classOnly || isClass)).bind fun r =>
      (exportedM.find? fun e => e.key == r.key && (!e.classOnly || isClass) && !e.optional).map (·.src)) = some a := by
  decide +kernel

theorem loadM_exportM (s fr : MState V) (a : MField) (ha : a ∈ predM s.isClass) :
    (loadM fr s.isClass (exportM s)).m a = s.m a := by
  obtain ⟨r, hr, h⟩ := Option.bind_eq_some_iff.1 (wiringM s.isClass a ha)
  obtain ⟨e, he, rfl⟩ := Option.map_eq_some_iff.1 h
  simp only [loadM, exportM, hr, he, Option.getD_some]

theorem loadTree_exportTree (fl : LField → V) (fc : V) (nd : NField → V) (gather : V → V) (t : Tree V)
    (hc : CentersOk gather t) :
    viewTree (loadTree fl fc nd gather (exportTree t)) = viewTree t := by
  induction t with
  | leaf f c =>
    obtain rfl : c = gather (f .trainIndices) := hc
    -- the centers agree by evaluation: `trainIndices` comes back and `centersFromTrainIndices` re-derives them
    exact congrArg (VTree.leaf · _) (funext fun a => by cases a <;> rfl)
  | node f l r ihl ihr =>
    simp only [exportTree, loadTree, viewTree, ihl hc.1, ihr hc.2]
    exact congrArg (VTree.node · _ _) (funext fun a => by cases a <;> rfl)

/-- **C11 (round trip)** A fresh model that loads the exported state together with the training inputs holds, in every
attribute predictions read (model level, every split node, every leaf including the re-derived centers), exactly the
values of the source model — for regression and classification, any number of trees, any tree shape, tuned or fixed
temperature — provided the source satisfies C07's invariant `centers = X_train[train_indices]`. -/
theorem roundtrip (s : Model V) (fr : Fresh V) (gather : V → V) (hc : ∀ t ∈ s.trees, CentersOk gather t) :
    predictView (load fr s.ms.isClass gather (exportState s)) = predictView s := by
  unfold predictView
  refine congr (congrArg (View.mk _) (funext fun a => ?_)) ?_
  · exact ite_congr rfl (fun ha => congrArg some (loadM_exportM s.ms fr.ms a ha)) fun _ => rfl
  · simp only [load, exportState, List.map_map]
    exact List.map_congr_left fun t ht => loadTree_exportTree _ _ _ gather t (hc t ht)

/-- The loaded model again satisfies the invariant, so the round trip can be iterated (load of a load). -/
theorem loaded_centers_ok (fl : LField → V) (fc : V) (nd : NField → V) (gather : V → V) (p : PTree V) :
    CentersOk gather (loadTree fl fc nd gather p) := by
  induction p with
  | leaf d => simp [loadTree, CentersOk, centersFromTrainIndices]
  | node d l r ihl ihr => exact ⟨ihl, ihr⟩

/-- **C11 (repeated cycles)** Export and load twice: still the source's prediction view. -/
theorem roundtrip_iterated (s : Model V) (fr fr' : Fresh V) (gather : V → V) (hc : ∀ t ∈ s.trees, CentersOk gather t) :
    predictView (load fr' s.ms.isClass gather (exportState (load fr s.ms.isClass gather (exportState s)))) = predictView s :=
  (roundtrip (load fr s.ms.isClass gather (exportState s)) fr' gather fun t ht => by
    obtain ⟨p, -, rfl⟩ := List.mem_map.1 ht
    exact loaded_centers_ok ..).trans (roundtrip s fr gather hc)

/-- **C11 (nothing learned is left behind)** Every attribute of the estimator that `fit` assigns and that the prediction code
(`predict`, `predict_proba`, `get_grads` and everything they call on `self`) reads is assigned again by `load_state_dict` — over the
regenerated inventories `Gen.State.learnedStateReadAtPrediction` / `attributesAssignedByLoad` (attribute reads and writes of the
current source; a cache the prediction code builds for itself is not learned state).  A learned attribute that a load does not set
would be read by the loaded model at the constructor's default. -/
theorem learned_state_read_at_prediction_is_restored :
    learnedStateReadAtPrediction.all (fun a => attributesAssignedByLoad.contains a) = true := by decide +kernel

-- non-vacuity: the trees and the label converter are such attributes
example : learnedStateReadAtPrediction.contains "trees" = true ∧ 2 ≤ learnedStateReadAtPrediction.length := by decide +kernel

/-- **C11 (export is pure)** `get_state_dict()` leaves the source model as it was. -/
theorem export_pure (scrub : V → V) (s : Model V) : sourceAfterExport scrub s = s := by
  simp [sourceAfterExport, exportLeavesSourceUntouched]

/-- Non-vacuity: a two-leaf classification model over `V = Nat` whose leaves satisfy the invariant for `gather = id`. -/
example : ∃ s : Model Nat, s.ms.isClass = true ∧ s.trees.length = 1 ∧ ∀ t ∈ s.trees, CentersOk id t :=
  ⟨{ ms := { isClass := true, m := fun _ => 7 },
     trees := [.node (fun _ => 1) (.leaf (fun _ => 3) 3) (.leaf (fun _ => 4) 4)] },
   rfl, rfl, fun t ht => by obtain rfl := List.mem_singleton.1 ht; exact ⟨rfl, rfl⟩⟩

end Xrfmv.Props.C11
