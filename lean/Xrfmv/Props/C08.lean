/-
C08 — Prediction-time routing agrees with training-time assignment.

Model: the index-level construction `Xrfmv.BuildIndex.build` (regenerated `Gen.Split`/`Gen.Refill`) and the
prediction routing `Xrfmv.RouteAgree.routeTo` (regenerated `Gen.Route.goesLeft`).  Projections live in an
arbitrary linear order; `torch.sort` / `torch.median` are oracles with the contract `NodeContract`
(ascending permutation, lower median `sorted[(n-1)/2]`), which the correspondence checks on every recorded node.
-/
import Xrfmv.Lemmas.RouteAgree

namespace Xrfmv.Props.C08
open Xrfmv.BuildIndex Xrfmv.RouteAgree Xrfmv.Gen.Split Xrfmv.Gen.Route

variable {α : Type} [LinearOrder α]

/-- **C08 (one node)** For odd and even node sizes and every overlap band leaving two unshared samples, a
sample whose projection is not tied with the split threshold is sent by the rule "`≤ threshold` goes left" to a
child that received it from the rank-based training split. -/
theorem node_routing_agrees (n o : Nat) (proj : Nat → α) (sorted : List Nat) (thr : α)
    (hc : NodeContract n proj sorted thr) (ho : o + 2 ≤ n) (i : Nat) (hi : i < n) (hne : proj i ≠ thr) :
    (goesLeft (proj i) thr = true → sideMask n sorted (o : Int) .left i = true) ∧
    (goesLeft (proj i) thr = false → sideMask n sorted (o : Int) .right i = true) :=
  node_agree n o proj sorted thr hc i hi hne

/-- **C08 (whole tree)** Every training sample whose projections are not tied with a threshold on its predicted
route is routed, at prediction time, to a leaf that received it during training (as a center or as a sample
moved to that leaf's validation set) — any depth, any overlap, any oracle meeting the contracts. -/
theorem train_route_agree (cfg : Cfg) (O : Oracles) (P : ProjOracles α)
    (hperm : ∀ path n, IsPermOfRange (O.permO path n) n) (fuel n : Nat)
    (hcons : Consistent cfg O P fuel [] (List.range n) 0)
    (hok : (build cfg O fuel [] (List.range n) true 0).1.ok = true)
    (x : Nat) (hx : x < n) (hunt : Untied P (build cfg O fuel [] (List.range n) true 0).1 [] x) :
    ∃ l ∈ (build cfg O fuel [] (List.range n) true 0).1.leaves,
      l.1 = routeTo P (build cfg O fuel [] (List.range n) true 0).1 [] x ∧ x ∈ l.2.1 ++ l.2.2 :=
  route_agree cfg O P hperm fuel [] (List.range n) true 0 hcons hok x (List.mem_range.mpr hx) hunt

/-- **C08 (whole tree, without the `ok` hypothesis)** Without a forced split count and with fuel `n + 1`, the per-node
contracts collected in `Consistent` already imply that the construction succeeds, so the agreement holds for every
training sample that is untied along its predicted route. -/
theorem train_route_agree_unconditional (cfg : Cfg) (O : Oracles) (P : ProjOracles α) (hns : cfg.nsplits = none)
    (hperm : ∀ path n, IsPermOfRange (O.permO path n) n) (n : Nat)
    (hcons : Consistent cfg O P (n + 1) [] (List.range n) 0)
    (x : Nat) (hx : x < n) (hunt : Untied P (build cfg O (n + 1) [] (List.range n) true 0).1 [] x) :
    ∃ l ∈ (build cfg O (n + 1) [] (List.range n) true 0).1.leaves,
      l.1 = routeTo P (build cfg O (n + 1) [] (List.range n) true 0).1 [] x ∧ x ∈ l.2.1 ++ l.2.2 :=
  train_route_agree cfg O P hperm (n + 1) n hcons
    (ok_of_consistent cfg O P (n + 1) [] (List.range n) true 0 (by simp) hcons) x hx hunt

/-- **C08 (validation points)** The caller's validation points are assigned to subtrees by the same predicate
that prediction uses (both regenerated from the source: `projections_val <= train_median` and
`projections <= split_point`, the stored split point being that median). -/
theorem val_rule_eq_predict_rule (proj thr : α) : valGoesLeft proj thr = goesLeft proj thr := by
  -- compared as propositions: the two source lines may spell the test differently (`thr >= proj`, a negated `>`)
  rw [Bool.eq_iff_iff]; simp [valGoesLeft, goesLeft]

/-- Non-vacuity: five projections `[3,1,4,1,5]`, the stable ascending permutation `[1,3,0,2,4]` and the lower
median `3` meet the node contract. -/
example : NodeContract 5 (fun i => ([3, 1, 4, 1, 5] : List Nat).getD i 0) [1, 3, 0, 2, 4] 3 := by
  -- the ascending clause is a finite table once `b < 5` bounds both ranks
  have h : ∀ b < 5, ∀ a ≤ b, ([3, 1, 4, 1, 5] : List Nat).getD (([1, 3, 0, 2, 4] : List Nat).getD a 0) 0 ≤
      ([3, 1, 4, 1, 5] : List Nat).getD (([1, 3, 0, 2, 4] : List Nat).getD b 0) 0 := by decide
  exact ⟨by unfold IsPermOfRange; decide, fun a b hab hb => h b hb a hab, by decide⟩

end Xrfmv.Props.C08
