/-
C02 — Leaf coefficients solve the ridge system of the state that is stored.

Three parts.  (a) *Which* state: over the regenerated selection program `Gen.Select` the weights, the
feature matrix, its root and the bandwidth that `fit` leaves in the object all belong to one iterate
(with and without best-parameter restoration, with and without early stopping, constant and adaptive
bandwidth) — so the stored `α` was solved against the Gram matrix of the *stored* state.
(b) Algebra of the ridge system: `(K + λI)α = Y ⇔ Kα = Y − λα` (predictions at the centers), and the
solution is unique for symmetric positive semi-definite `K` and `λ > 0`, so `solve`, `cholesky` and `lu`
must return the same coefficients.  That the Laplace-family Gram matrix is PSD is not an
hypothesis: `Lemmas/KernelPsd.lean` (C05, Schoenberg) gives it for `0 < q ≤ p ≤ 2`, so the system of the
stored centers has exactly one solution (`ridge_exists_unique_lpq/_laplace/_product`).
(c) Over the regenerated solver plan `Gen.Ridge` (translated from `fit_predictor_lstsq`): every solver branch hands
`(K + reg·I, Y)` to `torch.linalg`, so by (b) all branches return the same coefficients.  torch's factorisations themselves
are modelled (as an exact solve), not verified.
-/
import Xrfmv.Lemmas.FitLoop
import Xrfmv.Lemmas.KernelPsd
import Xrfmv.Lemmas.Ridge

namespace Xrfmv.Props.C02
open Xrfmv.FitLoop Matrix

/-- All four pieces of state carry the same iterate tag (constant mode: bandwidth tag `0` = the
constructor bandwidth, which every iterate uses). -/
def Coherent (adaptive : Bool) (c : Cur) : Prop :=
  ∃ j, c.w = some j ∧ c.m = j ∧ c.sq = j ∧ c.bw = (if adaptive then j else 0)

/-- **C02(a)** For every iteration budget, score history, direction, early-stop setting and bandwidth
mode the state left by `fit` is coherent — with best-parameter restoration … -/
theorem coherent_final_state_best (cfg : Cfg EReal) (s : ℕ → ℝ) (μ : ℝ)
    (hrb : cfg.returnBest = true) (hmu : cfg.mult = ((μ : ℝ) : EReal)) :
    Coherent cfg.adaptive (fit cfg (fun n => ((s n : ℝ) : EReal))).fin := by
  obtain ⟨n, h⟩ := fit_spec cfg s hrb hmu
  exact h.fin ▸ ⟨argBest cfg.maximize s n, rfl, rfl, rfl, rfl⟩

/-- … and without it (the early-stop branch that would advance `M` past the weights is unreachable
because the best score stays `±∞`; multiplier `μ > 0`). -/
theorem coherent_final_state_last (cfg : Cfg EReal) (s : ℕ → ℝ) (μ : ℝ)
    (hrb : cfg.returnBest = false) (hmu : cfg.mult = ((μ : ℝ) : EReal)) (hμ : 0 < μ) :
    Coherent cfg.adaptive (fit cfg (fun n => ((s n : ℝ) : EReal))).fin :=
  (fit_last cfg s hrb hmu hμ).1 ▸ ⟨cfg.iters, rfl, rfl, rfl, rfl⟩

variable {n m : Type} [Fintype n] [DecidableEq n]

/-- **C02(b)** The ridge system is equivalent to the prediction identity at the centers. -/
theorem ridge_iff_pred (K : Matrix n n ℝ) (α Y : Matrix n m ℝ) (lam : ℝ) :
    (K + lam • (1 : Matrix n n ℝ)) * α = Y ↔ K * α = Y - lam • α := by
  rw [Matrix.add_mul, Matrix.smul_mul, Matrix.one_mul, eq_sub_iff_add_eq]

/-- The ridge matrix `K + λI` is positive **definite** for PSD `K` and `λ > 0` — what `torch.linalg.cholesky` needs
(so the `cholesky` solver applies to every system the property quantifies over, without its fallback). -/
theorem ridge_matrix_posDef (K : Matrix n n ℝ) (hK : K.PosSemidef) (lam : ℝ) (hl : 0 < lam) :
    (K + lam • (1 : Matrix n n ℝ)).PosDef :=
  Matrix.PosDef.posSemidef_add hK (Matrix.PosDef.smul Matrix.PosDef.one hl)

/-- **C02(b)** Uniqueness: for positive semi-definite `K` and `λ > 0` the ridge system has at most one
solution (per output column). -/
theorem ridge_unique (K : Matrix n n ℝ) (hK : K.PosSemidef) (lam : ℝ) (hl : 0 < lam)
    (a b y : n → ℝ)
    (ha : (K + lam • (1 : Matrix n n ℝ)) *ᵥ a = y) (hb : (K + lam • (1 : Matrix n n ℝ)) *ᵥ b = y) :
    a = b :=
  Matrix.mulVec_injective_of_isUnit (ridge_matrix_posDef K hK lam hl).isUnit (ha.trans hb.symm)

theorem existsUnique_mul_eq {M : Matrix n n ℝ} (hM : IsUnit M) (Y : Matrix n m ℝ) :
    ∃! A : Matrix n m ℝ, M * A = Y :=
  have hd := (Matrix.isUnit_iff_isUnit_det M).mp hM
  ⟨M⁻¹ * Y, Matrix.mul_nonsing_inv_cancel_left M Y hd, fun B hB => by
    rw [← hB, Matrix.nonsing_inv_mul_cancel_left M B hd]⟩

/-- Existence and uniqueness: for PSD `K` and `λ > 0` the ridge system has exactly one solution. -/
theorem ridge_exists_unique (K : Matrix n n ℝ) (hK : K.PosSemidef) (lam : ℝ) (hl : 0 < lam)
    (Y : Matrix n m ℝ) : ∃! A : Matrix n m ℝ, (K + lam • (1 : Matrix n n ℝ)) * A = Y :=
  existsUnique_mul_eq (ridge_matrix_posDef K hK lam hl).isUnit Y

/-- Matrix (multi-output) form of `ridge_unique`. -/
theorem ridge_unique_matrix (K : Matrix n n ℝ) (hK : K.PosSemidef) (lam : ℝ) (hl : 0 < lam)
    (A B Y : Matrix n m ℝ)
    (hA : (K + lam • (1 : Matrix n n ℝ)) * A = Y) (hB : (K + lam • (1 : Matrix n n ℝ)) * B = Y) :
    A = B :=
  (ridge_exists_unique K hK lam hl Y).unique hA hB

section gram
open Xrfmv.Kernel

/-- `ridge_matrix_posDef` for the Gram matrix of any centers under the Lpq Laplace kernel, `0 < q ≤ p ≤ 2`. -/
theorem ridge_matrix_posDef_lpq {p q L : ℝ} (hq : 0 < q) (hqp : q ≤ p) (hp2 : p ≤ 2) (hL : 0 < L)
    (T : Transform ℝ) {d k : ℕ} (xs : Fin k → Fin d → ℝ) (lam : ℝ) (hl : 0 < lam) :
    (gram (.lpq p q L) T xs + lam • (1 : Matrix (Fin k) (Fin k) ℝ)).PosDef :=
  ridge_matrix_posDef _ (gram_lpq_posSemidef hq hqp hp2 hL T xs) lam hl

/-- **C02(b), closed**: the ridge system of the stored centers under the stored transform and bandwidth
has exactly one solution for the Lpq Laplace kernel, `0 < q ≤ p ≤ 2`, `L > 0`, `λ > 0` — any centers
(repeated ones included), any transform, any number of outputs. -/
theorem ridge_exists_unique_lpq {p q L : ℝ} (hq : 0 < q) (hqp : q ≤ p) (hp2 : p ≤ 2) (hL : 0 < L)
    (T : Transform ℝ) {d k c : ℕ} (xs : Fin k → Fin d → ℝ) (lam : ℝ) (hl : 0 < lam)
    (Y : Matrix (Fin k) (Fin c) ℝ) :
    ∃! A : Matrix (Fin k) (Fin c) ℝ, (gram (.lpq p q L) T xs + lam • (1 : Matrix (Fin k) (Fin k) ℝ)) * A = Y :=
  ridge_exists_unique _ (gram_lpq_posSemidef hq hqp hp2 hL T xs) lam hl Y

/-- `ridge_exists_unique_lpq` for the L2 Laplace kernel (`'l2'`, the default; exponent `0 < q ≤ 2`). -/
theorem ridge_exists_unique_laplace {q L : ℝ} (hq : 0 < q) (hq2 : q ≤ 2) (hL : 0 < L)
    (T : Transform ℝ) {d k c : ℕ} (xs : Fin k → Fin d → ℝ) (lam : ℝ) (hl : 0 < lam)
    (Y : Matrix (Fin k) (Fin c) ℝ) :
    ∃! A : Matrix (Fin k) (Fin c) ℝ, (gram (.laplace q L) T xs + lam • (1 : Matrix (Fin k) (Fin k) ℝ)) * A = Y := by
  rw [gram_laplace_eq]; exact ridge_exists_unique_lpq hq hq2 le_rfl hL T xs lam hl Y

/-- `ridge_exists_unique_lpq` for the product kernel (`'l1'`; exponent `0 < q ≤ 2`). -/
theorem ridge_exists_unique_product {q L : ℝ} (hq : 0 < q) (hq2 : q ≤ 2) (hL : 0 < L)
    (T : Transform ℝ) {d k c : ℕ} (xs : Fin k → Fin d → ℝ) (lam : ℝ) (hl : 0 < lam)
    (Y : Matrix (Fin k) (Fin c) ℝ) :
    ∃! A : Matrix (Fin k) (Fin c) ℝ, (gram (.product q L) T xs + lam • (1 : Matrix (Fin k) (Fin k) ℝ)) * A = Y := by
  rw [gram_product_eq hq]; exact ridge_exists_unique_lpq hq le_rfl hq2 hL T xs lam hl Y

/-- Exactly one solution also for the sum-power kernel with a natural power (`0 < q ≤ 2`, `0 ≤ c ≤ 1`). -/
theorem ridge_exists_unique_sumPower {q L c₀ : ℝ} (hq : 0 < q) (hq2 : q ≤ 2) (hL : 0 < L) (hc0 : 0 ≤ c₀)
    (hc1 : c₀ ≤ 1) (P : ℕ) (T : Transform ℝ) {d k c : ℕ} (xs : Fin k → Fin d → ℝ) (lam : ℝ) (hl : 0 < lam)
    (Y : Matrix (Fin k) (Fin c) ℝ) :
    ∃! A : Matrix (Fin k) (Fin c) ℝ,
      (gram (.sumPower q L c₀ (P : ℝ)) T xs + lam • (1 : Matrix (Fin k) (Fin k) ℝ)) * A = Y :=
  ridge_exists_unique _ (gram_sumPower_posSemidef hq hq2 hL hc0 hc1 P T xs) lam hl Y

end gram

/-- Non-vacuity: the identity Gram matrix (distinct far-apart points) is PSD and `λ = 1e-3 > 0`. -/
example : (1 : Matrix (Fin 3) (Fin 3) ℝ).PosSemidef ∧ (0 : ℝ) < 1e-3 :=
  ⟨Matrix.PosSemidef.one, by norm_num⟩

/-- **C02 over the regenerated solver code.**  In `RFM.fit_predictor_lstsq` as the source reads when the check runs (translated
into `Gen.Ridge.plan` on every run) every solver branch — and the plan has a branch for each of `solve`, `cholesky`, `lu` — factorises the Gram matrix of
the centers with `reg` added to its diagonal, solves with the factor it has just computed, against the targets, and changes
nothing else: the system it hands to `torch.linalg` is `(K + reg·I, Y)`. -/
theorem gen_every_solver_branch_solves_the_ridge_system (K : Matrix n n ℝ) (reg : ℝ) (Y : Matrix n m ℝ) :
    (∀ s ∈ ["solve", "cholesky", "lu"], s ∈ Gen.Ridge.plan.branches.map (·.name)) ∧
    ∀ b ∈ Gen.Ridge.plan.branches,
      Ridge.systemOf Gen.Ridge.plan b K reg Y = some (K + reg • (1 : Matrix n n ℝ), Y) := by
  have hf : ∀ b ∈ Gen.Ridge.plan.branches, Ridge.faithful b = true := by decide +kernel
  have hg : Gen.Ridge.plan.gramOfCentersWithThemselves = true := rfl
  have hr : Gen.Ridge.plan.regAddedToDiagonal = true := rfl
  refine ⟨by decide +kernel, fun b hb => ?_⟩
  rw [Ridge.systemOf, Ridge.systemMatrix, hg, hr, hf b hb]; rfl

/-- With `torch.linalg` modelled as an exact solve of the system it is given (`hsol`; by
`gen_every_solver_branch_solves_the_ridge_system` that system is `(K + reg·I, Y)`), the coefficients every solver returns
satisfy `(K + reg·I) α = Y`, and for a positive semi-definite `K` and `reg > 0` all solvers return the same `α`. -/
theorem gen_solvers_return_the_ridge_solution (K : Matrix n n ℝ) (hK : K.PosSemidef) (reg : ℝ) (hreg : 0 < reg)
    (Y : Matrix n m ℝ) (sol : String → Matrix n m ℝ)
    (hsol : ∀ b ∈ Gen.Ridge.plan.branches, ∀ A R, Ridge.systemOf Gen.Ridge.plan b K reg Y = some (A, R) → A * sol b.name = R) :
    ∀ b ∈ Gen.Ridge.plan.branches, ∀ b' ∈ Gen.Ridge.plan.branches,
      (K + reg • (1 : Matrix n n ℝ)) * sol b.name = Y ∧ sol b.name = sol b'.name := by
  intro b hb b' hb'
  have h := (gen_every_solver_branch_solves_the_ridge_system K reg Y).2
  have e := hsol b hb _ _ (h b hb)
  have e' := hsol b' hb' _ _ (h b' hb')
  exact ⟨e, ridge_unique_matrix K hK reg hreg _ _ Y e e'⟩

end Xrfmv.Props.C02
