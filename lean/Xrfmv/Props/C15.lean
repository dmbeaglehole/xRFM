/-
C15 — Categorical fast path equals dense evaluation on one-hot inputs.

Statements are about `Xrfmv.Categorical` (Model/Categorical.lean) at `ℝ`: `fastKernel` is
`_get_kernel_matrix_categorical_impl` (per-group tables `‖T_g(e_a) − T_g(e_b)‖_p^p` of identity code
vectors, looked up at the arg-max category of each row and added to the numerical distance), `denseKernel`
is `_get_kernel_matrix_impl` on the one-hot expanded row, `agopCat` is `get_agop_categorical`.

Unbounded: any number `d` of columns, any number of numerical columns and groups, any number of levels,
any column order (`lay.cover` is only required to be a permutation of `0..d-1`), any rows, any `p`.
Exact real arithmetic; floating-point rounding is not modelled.
-/
import Xrfmv.Lemmas.Categorical
import Xrfmv.Gen.Chunks

namespace Xrfmv.Props.C15
open Xrfmv.Categorical

/-- **C15 (distance tables: block additivity)** `‖u − v‖_p^p = Σ_i |u_i − v_i|^p` over all `d` coordinates is the sum of the
same quantity over the numerical block and over every categorical block, for every exponent `p` and every
partition of the columns into numerical columns and index groups. -/
theorem lp_pow_block_additive (p : ℝ) (lay : Layout) (d : ℕ) (hcover : lay.cover.Perm (List.range d))
    (u v : ℕ → ℝ) :
    lpPowRange p d u v = lpPowOver p lay.num u v + sumL (lay.groups.map fun g => lpPowOver p g u v) :=
  sum_block_additive lay d hcover _

/-- **C15 (distance tables: the lookup)** If `x_g = e_a` and `z_g = e_b` are one-hot on group `g`, the term of block `g`
in the dense computation equals `table_g[a][b]`, and the arg-max the fast path takes is `a` (resp. `b`):
the lookup hits exactly that entry.  Holds for every transform that does not mix blocks. -/
theorem onehot_lookup (p : ℝ) (lay : Layout) (d : ℕ) (hcover : lay.cover.Perm (List.range d))
    (T : Transform ℝ) (hT : NoMix lay d T) (g : List ℕ) (hg : g ∈ lay.groups) (x z : ℕ → ℝ) (a b : ℕ)
    (ha : a < g.length) (hb : b < g.length)
    (hxa : ∀ c < g.length, restrict x g c = onehot a c) (hzb : ∀ c < g.length, restrict z g c = onehot b c) :
    lpPowOver p g (applyT T d x) (applyT T d z) = table p T g a b ∧
      argmax (restrict x g) g.length = a ∧ argmax (restrict z g) g.length = b ∧
      catTerm p T x z g = table p T g a b :=
  ⟨onehot_block_term hcover hT hg p x z hxa hzb,
   argmax_onehot ha hxa, argmax_onehot hb hzb,
   catTerm_onehot p T x z g ha hb hxa hzb⟩

/-- **C15 (kernel clause; block-diagonal transform)** For the L2, product and Lpq kernels, any exponents
with `q > 0`, any bandwidth, any layout that partitions the `d` columns, rows that are one-hot on every
categorical group and any transform without entries between different blocks (`NoMix`: absent, diagonal, or
a full matrix whose entries between different blocks are zero), the fast-path kernel value equals the dense
kernel value on the expanded rows: `(x·T)` restricted to a block depends only on `x` restricted to that block. -/
theorem categorical_eq_dense_blockdiag (kind : Kind) (p q L : ℝ) (hq : 0 < q) (lay : Layout) (d : ℕ)
    (hcover : lay.cover.Perm (List.range d)) (T : Transform ℝ) (hT : NoMix lay d T) (x z : ℕ → ℝ)
    (hx : OneHotRows lay x) (hz : OneHotRows lay z) :
    fastKernel kind p q L lay T x z = denseKernel kind p q L d T x z := by
  unfold fastKernel denseKernel
  rw [fastAcc_eq_denseAcc _ hcover hT hx hz, outerFast_eq_outerDense kind p q _ hq (denseAcc_nonneg _ _ _ _ _)]

/-- **C15 (kernel clause; transform absent or diagonal)** The property's own setting: an absent or a
diagonal transform mixes no blocks. -/
theorem categorical_eq_dense (kind : Kind) (p q L : ℝ) (hq : 0 < q) (lay : Layout) (d : ℕ)
    (hcover : lay.cover.Perm (List.range d)) (T : Transform ℝ)
    (hT : T = .none ∨ ∃ v, T = .diag v) (x z : ℕ → ℝ)
    (hx : OneHotRows lay x) (hz : OneHotRows lay z) :
    fastKernel kind p q L lay T x z = denseKernel kind p q L d T x z := by
  have hmix : NoMix lay d T := by
    rcases hT with rfl | ⟨v, rfl⟩ <;> trivial
  exact categorical_eq_dense_blockdiag kind p q L hq lay d hcover T hmix x z hx hz

/-- **C15 (kernel clause, matrices)** Whole kernel matrices agree when every row of `xs` and `zs` is
one-hot on every group. -/
theorem categorical_matrix_eq_dense (kind : Kind) (p q L : ℝ) (hq : 0 < q) (lay : Layout) (d : ℕ)
    (hcover : lay.cover.Perm (List.range d)) (T : Transform ℝ) (hT : NoMix lay d T)
    (xs zs : List (ℕ → ℝ)) (hx : ∀ x ∈ xs, OneHotRows lay x) (hz : ∀ z ∈ zs, OneHotRows lay z) :
    fastMatrix kind p q L lay T xs zs = denseMatrix kind p q L d T xs zs :=
  List.map_congr_left fun x hxm => List.map_congr_left fun z hzm =>
    categorical_eq_dense_blockdiag kind p q L hq lay d hcover T hT x z (hx x hxm) (hz z hzm)

/-- **C15 (AGOP clause)** The categorical AGOP (zeros, then one masked assignment per block) is entrywise
the dense AGOP `GᵀG` where both indices lie in one block of the layout and `0` elsewhere — for every
gradient matrix `G` (any number of rows) and every layout. -/
theorem agop_block_restriction (n : ℕ) (G : ℕ → ℕ → ℝ) (lay : Layout) (i j : ℕ) :
    agopCat n G lay i j = (if sameBlock lay i j then gram n G i j else 0) :=
  agopCat_eq_blockMask n G lay i j

/-- **C15 (AGOP clause, blocks do not overlap)** When the index groups are disjoint (no column is declared
twice) every column lies in at most one block and sharing a block is transitive: the mask of
`agop_block_restriction` is that of a block-diagonal matrix (up to the column order). -/
theorem agop_blocks_disjoint (lay : Layout) (hnd : lay.cover.Nodup) :
    (∀ B ∈ lay.blocks, ∀ B' ∈ lay.blocks, ∀ i, i ∈ B → i ∈ B' → B = B') ∧
    (∀ i j k, sameBlock lay i j = true → sameBlock lay j k = true → sameBlock lay i k = true) := by
  refine ⟨fun _ hB _ hB' _ hi hi' => block_unique hnd hB hB' hi hi', fun i j k hij hjk => ?_⟩
  obtain ⟨B, hB, hiB, hjB⟩ := (sameBlock_iff lay i j).mp hij
  obtain ⟨B', hB', hjB', hkB'⟩ := (sameBlock_iff lay j k).mp hjk
  exact (sameBlock_iff lay i k).mpr ⟨B, hB, hiB, block_unique hnd hB hB' hjB hjB' ▸ hkB'⟩

/-- Six columns, interleaved: numerical column 2, groups `{0, 3}` and `{1, 4, 5}`. -/
def exLayout : Layout := { num := [2], groups := [[0, 3], [1, 4, 5]] }

/-- A full matrix without cross-block entries and with non-zero off-diagonal entries inside blocks. -/
noncomputable def exT : Transform ℝ :=
  .full fun i j => if sameBlock exLayout i j then (i : ℝ) + j + 1 else 0

/-- A row: numerical value `1/2`, level 1 of the first group (column 3), level 1 of the second (column 4). -/
noncomputable def exRow : ℕ → ℝ := fun i => if i = 2 then 1 / 2 else if i = 3 ∨ i = 4 then 1 else 0

/-- The hypotheses of the kernel theorems are met by a concrete non-trivial instance: a shuffled layout
that partitions the columns, a block-diagonal (non-diagonal) transform, a one-hot row. -/
example : exLayout.cover.Perm (List.range 6) ∧ NoMix exLayout 6 exT ∧ OneHotRows exLayout exRow := by
  refine ⟨by decide, fun i j _ _ h => if_neg (by rw [h]; exact Bool.false_ne_true), ?_⟩
  -- level 1 of both groups; the two sides reduce to the same numeral
  have h2 : ∀ c < 2, restrict exRow [0, 3] c = onehot 1 c
    | 0, _ => rfl
    | 1, _ => rfl
  have h3 : ∀ c < 3, restrict exRow [1, 4, 5] c = onehot 1 c
    | 0, _ => rfl
    | 1, _ => rfl
    | 2, _ => rfl
  intro g hg
  rcases List.mem_cons.1 hg with rfl | hg
  · exact ⟨1, by decide, h2⟩
  · rw [List.mem_singleton.1 hg]; exact ⟨1, by decide, h3⟩

/-- … and the transform really has an off-diagonal entry inside a block (it is not diagonal). -/
example : (match exT with | .full m => m 0 3 | _ => 0) = 4 := by
  show (if sameBlock exLayout 0 3 = true then ((0 : ℕ) : ℝ) + (3 : ℕ) + 1 else 0) = 4
  rw [if_pos (by decide)]; norm_num

/-- **C15 (row blocks of the fast paths, over the regenerated source)**  The categorical fast paths add the per-group lookup
tables to the numerical distances in row blocks (`for i in range(0, x.shape[0], batch_size): m[i:i+batch_size].add_(…)`; the
product kernel fills the numerical part in blocks of another size).  Every such loop of the regenerated inventory `Gen.Chunks`
starts at 0, runs to the number of rows and slices exactly one step: each row receives each group's table entry exactly once
(`Props/C01.tiling_is_rowwise` is the general statement about such loops). -/
theorem row_blocks_are_tilings :
    Xrfmv.Gen.Chunks.loops.all (fun l => l.startZero && l.stopIsLeadingDim && l.widthEqStep && l.lowerIsLoopVar) = true := by
  -- the sweep of `Props/C01.chunk_loops_are_tilings`: every loop of the inventory, the categorical ones among them; only
  -- `Bool` fields are read, so plain `decide` evaluates it
  decide

end Xrfmv.Props.C15
