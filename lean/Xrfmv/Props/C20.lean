/-
C20 — Results do not depend on how inputs are represented.

Thin by nature (DESIGN.md §6 C20): the theorem is a complete finite table over (container, dtype, shape) of the
hand-written coercion model `Xrfmv/Model/Coerce.lean` (no translator recipe: the branches of `xRFM.fit` that the
model mirrors are quoted in that file).  Value-level conversion is torch's.  The tie is the correspondence
(harness/props/c20.py): what every leaf `RFM.fit` receives is recorded for every documented representation and
compared with `coerceX`/`coerceY`; predictions are compared bit-exactly across representations.

Documented interface (the property's quantifier):
  features : float32 tensors, float32 / float64 arrays, shape (n, d)
  targets  : tensors or arrays; float targets in 32 or 64 bit, shape (n,) / (n,1) (one output) or (n,k);
             integer labels of width 8/16/32/64 (signed) or uint8, shape (n,) or (n,1)
OUTSIDE the documented interface (stated explicitly, see `outside_interface`):
  * float64 (or float16, integer) feature TENSORS: `xRFM.fit` keeps a tensor's dtype, so they are not converted
    (float64 features then meet float32 targets in `torch.linalg.solve` and the fit raises);
  * bool labels (treated as a 2-class problem), float16 targets (classification is *not* inferred, but they are not
    32/64-bit floats), an (n,k) integer label matrix (flattened by `reshape(-1)`);
  (NumPy uint16 / uint32 / uint64 labels are inside the interface, "integer labels in any integer width": `documentedY`.)
-/
import Xrfmv.Model.Coerce

namespace Xrfmv.Props.C20
open Xrfmv.Coerce

/-- The enumeration used by the table is complete. -/
theorem mem_allReps (r : Rep) : r ∈ allReps := by
  rcases r with ⟨c, d, s⟩
  simp only [allReps, List.mem_flatMap, List.mem_map]
  exact ⟨c, by cases c <;> decide, d, by cases d <;> decide, s, by cases s <;> decide, rfl⟩

/-- **C20 (features)** Every documented feature representation coerces to the one canonical form: a float32
tensor of shape (n, d). -/
theorem coerce_canonical_features (r : Rep) (h : documentedX r = true) : coerceX r = canonX := by
  have : ∀ r ∈ allReps, documentedX r = true → coerceX r = canonX := by decide +kernel
  exact this r (mem_allReps r) h

/-- **C20 (targets)** For each kind of data (one-output / multi-output regression, binary / multiclass labels) and
each label encoding, every documented target representation — tensor or array, 32- or 64-bit floats, any integer
width, `(n,)` or `(n,1)` — reaches the tree builder and every leaf as the same canonical tensor: float32,
`(n,1)` / `(n,outs)` / `(n,K)` / `(n,K-1)`; and the task (regression vs classification) is inferred as intended. -/
theorem coerce_canonical_targets (l : Logical) (m : Mode) (r : Rep) (h : documentedY l r = true) :
    coerceY l m r = some (canonY l m) ∧ (isClass r = true ↔ (l = .binary ∨ l = .multi)) := by
  have : ∀ l ∈ allLogical, ∀ m ∈ allModes, ∀ r ∈ allReps, documentedY l r = true →
      coerceY l m r = some (canonY l m) ∧ (isClass r = true ↔ (l = .binary ∨ l = .multi)) := by decide +kernel
  exact this l (by cases l <;> decide) m (by cases m <;> decide) r (mem_allReps r) h

/-- **C20 (outputs)** `predict` returns an `(n, outputs)` float array for regression and an `(n,)` integer label
array for classification; `predict_proba` returns `(n, n_classes)` floats — computed from the canonical leaf target
shape through `numerical_to_labels` / `numerical_to_probas`, for both encodings. -/
theorem outputs_documented (l : Logical) (m : Mode) (a : Api) : output l m a = documentedOutput l a := by
  cases l <;> cases m <;> cases a <;> decide

/-- **C20** All documented representations of the same data coerce to the same canonical (dtype, shape): any two
documented feature representations agree, and any two documented target representations of the same kind of data
agree.  (The form in which the property is phrased: "yields the same fitted predictions" then follows from the
correspondence: the same code runs on the same canonical tensors.) -/
theorem coerce_canonical :
    (∀ r₁ r₂ : Rep, documentedX r₁ = true → documentedX r₂ = true → coerceX r₁ = coerceX r₂) ∧
    (∀ (l : Logical) (m : Mode) (r₁ r₂ : Rep), documentedY l r₁ = true → documentedY l r₂ = true →
        coerceY l m r₁ = coerceY l m r₂ ∧ (coerceY l m r₁).isSome = true) := by
  refine ⟨fun r₁ r₂ h₁ h₂ => ?_, fun l m r₁ r₂ h₁ h₂ => ?_⟩
  · rw [coerce_canonical_features r₁ h₁, coerce_canonical_features r₂ h₂]
  · rw [(coerce_canonical_targets l m r₁ h₁).1, (coerce_canonical_targets l m r₂ h₂).1]
    exact ⟨rfl, rfl⟩

/-- **C20 (pre-encoded float labels with a classification metric)** Binarised labels given as 32- or 64-bit floats,
tensors or arrays, shaped `(n,)` or `(n,1)` — and one-hot `(n,K)` matrices — all reach the tree builder (training
and validation side alike) as the same float32 `(n,1)` / `(n,K)` tensor. -/
theorem coerce_canonical_float_class (l : Logical) (r : Rep) (h : documentedYFloatClass l r = true) :
    coerceYFloatClass r = canonYFloatClass l ∧ (canonYFloatClass l).isSome = true := by
  have : ∀ l ∈ allLogical, ∀ r ∈ allReps, documentedYFloatClass l r = true →
      coerceYFloatClass r = canonYFloatClass l ∧ (canonYFloatClass l).isSome = true := by decide +kernel
  exact this l (by cases l <;> decide) r (mem_allReps r) h

/-- Non-vacuity: 8 binarised and 4 one-hot representations. -/
example : allLogical.map (fun l => (allReps.filter (documentedYFloatClass l)).length) = [0, 0, 8, 4] := by decide +kernel

/-- Symbolic column counts evaluate to the documented numbers: one column for single-output regression and for
binary zero-one labels, `outs`, `K` (one-hot), `K-1` (prevalence); `predict_proba` always has `K` columns. -/
theorem cols_eval (outs K d : Nat) :
    (Cols.one).eval outs K d = 1 ∧ (Cols.outs).eval outs K d = outs ∧ (Cols.classes).eval outs K d = K ∧
    (Cols.classesM1).eval outs K d = K - 1 ∧ (Cols.feats).eval outs K d = d := ⟨rfl, rfl, rfl, rfl, rfl⟩

/-- What is explicitly OUTSIDE the documented interface, and what the model says happens there: feature tensors
that are not float32 keep their dtype (no conversion); bool labels
are taken for a classification problem; float16 targets for regression. -/
theorem outside_interface :
    (documentedX ⟨.tensor, .f64, .mat⟩ = false ∧ coerceX ⟨.tensor, .f64, .mat⟩ ≠ canonX) ∧
    (∀ c s l, documentedY l ⟨c, .bool, s⟩ = false ∧ isClass ⟨c, .bool, s⟩ = true) ∧
    (∀ c s l, documentedY l ⟨c, .f16, s⟩ = false ∧ isClass ⟨c, .f16, s⟩ = false) := by
  -- the dtype alone decides both; container and shape are never looked at
  refine ⟨by decide, fun c s l => ?_, fun c s l => ?_⟩ <;> cases l <;> exact ⟨rfl, rfl⟩

/-- Non-vacuity: the documented interface is not empty — 6 feature representations (3 × the two 2-D shapes) and
8 / 4 / 32 / 32 target representations for the four kinds of data. -/
example : (allReps.filter documentedX).length = 6 ∧
    allLogical.map (fun l => (allReps.filter (documentedY l)).length) = [8, 4, 32, 32] := by decide +kernel

end Xrfmv.Props.C20
