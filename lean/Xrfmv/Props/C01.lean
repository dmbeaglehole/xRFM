/-
C01 — Hard-routed prediction equals the documented per-leaf kernel formula; batch independence.

Model: `Xrfmv.HardRoute` – the explicit stack traversal of `_get_leaf_groups_and_models_on_samples`, the
argsort-based restore of `_predict_tree_hard`, the chunk loop of `RFM.predict`, over the regenerated `Gen.Route`
(routing predicate `projection <= split_point`, push order, skip-empty rule).  Rows, node payloads, leaf payloads and
values are arbitrary types; every statement holds for all trees (any depth, any shape) and all batches.  The numerical
content of a leaf (`kexp`, the kernel expansion `Σ_i α_i k(x, c_i)`) is tied to the implementation by the float
correspondence; the kernel formulas themselves are C05.
-/
import Xrfmv.Lemmas.HardRoute
import Xrfmv.Gen.Chunks

namespace Xrfmv.Props.C01
open Xrfmv.HardRoute Xrfmv.Gen.Route

variable {N L X Y α : Type}

/-- The routing predicate of the code: a row goes left iff its projection is `≤` the stored threshold. -/
def goes [LE α] [DecidableLE α] [LT α] [DecidableLT α] (proj : N → X → α) (thr : N → α) : N → X → Bool :=
  fun g x => goesLeft (proj g x) (thr g)

/-- **C01 (traversal)** The iterative stack traversal terminates (by construction: well-founded on the total size of the
trees on the stack) and returns the recursive left-to-right grouping. -/
theorem groups_stack_eq_rec (gl : N → X → Bool) (t : Tree N L) (xs : List X) :
    groups gl t xs = groupsRec gl t (xs.zipIdx.map fun xi => (xi.2, xi.1)) :=
  groups_eq_rec gl t xs

/-- **C01 (formula)** For every tree, batch and leaf predictor `f` the hard-routed prediction of a tree is, row by row in
the caller's order, `f (leaf reached by following projection ≤ threshold) row`; with `f = kexp` this is the kernel
expansion of the single leaf reached. -/
theorem predict_is_leaf_formula [LE α] [DecidableLE α] [LT α] [DecidableLT α]
    (proj : N → X → α) (thr : N → α) (f : L → X → Y) (t : Tree N L) (xs : List X) :
    predictHard (goes proj thr) f t xs = xs.map fun x => f (route (goes proj thr) t x) x :=
  predictHard_eq_map _ f t xs

/-- **C01 (concatenation / splitting of batches)** Predicting a concatenated batch gives the concatenation of the
predictions: cutting a batch in two anywhere changes no value. -/
theorem append_hom (gl : N → X → Bool) (f : L → X → Y) (t : Tree N L) (a b : List X) :
    predictHard gl f t (a ++ b) = predictHard gl f t a ++ predictHard gl f t b := by
  simp [predictHard_eq_map]

/-- **C01 (row permutation)** Permuting the rows of the batch permutes the predictions in the same way. -/
theorem perm_equivariant (gl : N → X → Bool) (f : L → X → Y) (t : Tree N L) (xs : List X) (idx : List Nat) (d : X) :
    predictHard gl f t (idx.map fun i => xs.getD i d) =
      idx.map fun i => f (route gl t (xs.getD i d)) (xs.getD i d) := by
  simp [predictHard_eq_map, List.map_map, Function.comp_def]

/-- **C01 (batch independence)** The value returned for a row depends on that row alone: not on the other rows of the
batch, their number or their order. -/
theorem batch_independent (gl : N → X → Bool) (f : L → X → Y) (t : Tree N L) (xs : List X) (i : Nat) :
    (predictHard gl f t xs)[i]? = (xs[i]?).map fun x => f (route gl t x) x := by
  simp [predictHard_eq_map]

/-- **C01 (internal batch size)** The leaf predictor evaluated in chunks of any size `bs ≥ 1` equals the row-wise map,
provided the chunk function acts row by row (C05 `row_local`). -/
theorem internal_batch_size_irrelevant (bs : Nat) (hbs : 1 ≤ bs) (f : X → Y) (xs : List X) :
    batched bs (List.map f) xs = xs.map f :=
  batched_eq_map bs hbs f xs

/-- **C01 (every internal blocked loop, over the regenerated source)**  Every loop of the form
`for i in range(start, stop, step): … T[i : i + w] …` in `kernels.py`, `recursive_feature_machine.py` and `xrfm.py` (the batches
of `RFM.predict`, the row blocks of the product kernel, the row blocks of all categorical fast paths; inventory `Gen.Chunks`,
regenerated on every run) starts at 0, runs to the leading dimension of a tensor, and takes slices exactly as wide as its step. -/
theorem chunk_loops_are_tilings :
    Xrfmv.Gen.Chunks.loops.all (fun l => l.startZero && l.stopIsLeadingDim && l.widthEqStep && l.lowerIsLoopVar) = true := by
  decide

/-- A loop of that form (see `chunk_loops_are_tilings`) — any length, any block size `≥ 1` — computes exactly the row-wise map:
no row is dropped, none is evaluated twice, and the value of a row does not depend on the block it falls in. -/
theorem tiling_is_rowwise (bs : Nat) (hbs : 1 ≤ bs) (f : X → Y) (xs : List X) :
    chunked bs bs (List.map f) xs = xs.map f :=
  batched_eq_map bs hbs f xs  -- `batched bs` is `chunked bs bs` by definition

/-- The two conditions are needed: slices narrower than the step drop rows (what a loop that strides by `2·bs` but slices `bs`
rows does), slices wider than the step evaluate rows twice. -/
theorem narrow_or_wide_blocks_are_not_rowwise :
    chunked 2 1 (List.map id) [0, 1, 2, 3] ≠ [0, 1, 2, 3] ∧ chunked 1 2 (List.map id) [0, 1, 2] ≠ [0, 1, 2] := by
  decide

-- non-vacuity: the inventory is not empty and contains the batch loop of `RFM.predict`
example : Xrfmv.Gen.Chunks.loops.any (fun l => l.func == "RFM.predict") = true ∧ 2 ≤ Xrfmv.Gen.Chunks.loops.length := by
  decide

/-- **C01 (ensemble)** Stacking the per-tree outputs and averaging over trees position by position is the row-wise
average of the per-tree leaf formulas, so batch independence carries over to the ensemble (`avg` = mean over trees,
followed for classification by the label decoding, both applied to one row's values only). -/
theorem ensemble_rowwise (gl : N → X → Bool) (f : L → X → Y) (avg : List Y → Y) (trees : List (Tree N L))
    (xs : List X) (d : Y) :
    ((List.range xs.length).map fun i => avg (trees.map fun t => (predictHard gl f t xs).getD i d)) =
      xs.map fun x => avg (trees.map fun t => f (route gl t x) x) := by
  refine List.ext_getElem (by simp) fun i h1 h2 => ?_
  have hi : i < xs.length := by rwa [List.length_map] at h2
  simp only [predictHard_eq_map, List.getElem_map, List.getElem_range, List.getD_eq_getElem?_getD, List.getElem?_map,
    List.getElem?_eq_getElem hi, Option.map_some, Option.getD_some]

/-- Non-vacuity: a two-level tree over `ℕ` rows (thresholds 5 and 2) and a batch with a row exactly on a threshold, which
goes left. -/
example :
    let t : Tree Nat String := .node 5 (.node 2 (.leaf "a") (.leaf "b")) (.leaf "c")
    predictHard (goes (fun _ x => x) (fun g => g)) (fun m x => (m, x)) t [7, 5, 1, 3, 2] =
      [("c", 7), ("b", 5), ("a", 1), ("b", 3), ("a", 2)] := by
  intro t
  rw [predictHard_eq_map]
  rfl

end Xrfmv.Props.C01
