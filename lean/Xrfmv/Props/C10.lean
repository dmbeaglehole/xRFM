/-
C10 — Temperature tuning selects a best candidate and never regresses.

Model: `Xrfmv.Tune.tune`, the candidate loop of `xRFM.fit_temperature` as a fold over the regenerated
`Gen.Temp` (direction-aware comparison, tie clause, `≤ 0 ↦ hard routing`, initial values), run on real
scores embedded in `EReal`.  `s attr` is the validation score of the model whose `split_temperature` is
`attr`; all statements hold for every candidate list, order, initial temperature and score function.
-/
import Xrfmv.Lemmas.Tune

namespace Xrfmv.Props.C10
open Xrfmv.Tune Xrfmv.Gen.Temp

/-- **C10 (optimal candidate)** The stored temperature is (the attribute of) one of the candidates and no candidate
scores strictly better in the metric's direction. -/
theorem tuned_optimal (maximizing : Bool) (s : Option ℝ → ℝ) (current : Option ℝ) (cands : List ℝ) (hne : cands ≠ []) :
    let r := tune maximizing current cands (escore s)
    (∃ c ∈ cands, r.bestAttr = attrOf c) ∧ ∀ c ∈ cands, ¬ better maximizing (s (attrOf c)) (s r.bestAttr) :=
  let h := tune_spec maximizing s current cands hne
  ⟨h.fromCand, h.optimal⟩

/-- **C10 (recorded best score)** The recorded best score is the validation score of the model exactly as returned. -/
theorem best_score_is_returned_score (maximizing : Bool) (s : Option ℝ → ℝ) (current : Option ℝ) (cands : List ℝ)
    (hne : cands ≠ []) :
    let r := tune maximizing current cands (escore s)
    r.bestScore = ((s r.bestAttr : ℝ) : EReal) :=
  (tune_spec maximizing s current cands hne).score

/-- **C10 (results)** The recorded per-candidate results are the candidates' true scores, in order. -/
theorem results_faithful (maximizing : Bool) (s : Option ℝ → ℝ) (current : Option ℝ) (cands : List ℝ) (hne : cands ≠ []) :
    (tune maximizing current cands (escore s)).results = cands.map fun c => (c, ((s (attrOf c) : ℝ) : EReal)) :=
  (tune_spec maximizing s current cands hne).results

/-- **C10 (no regression)** Whenever hard routing (a candidate `≤ 0`, e.g. temperature `0`) is among the candidates,
the returned model's validation score is not worse than hard routing's. -/
theorem no_regress_vs_hard (maximizing : Bool) (s : Option ℝ → ℝ) (current : Option ℝ) (cands : List ℝ)
    (c0 : ℝ) (hc0 : c0 ∈ cands) (hle : c0 ≤ 0) :
    ¬ better maximizing (s none) (s (tune maximizing current cands (escore s)).bestAttr) :=
  attrOf_of_nonpos hle ▸ (tune_spec maximizing s current cands (List.ne_nil_of_mem hc0)).optimal c0 hc0

/-- Non-vacuity: the default-like tuning space `[0, 0.05, 0.5]` with a tuned incoming temperature. -/
example : ([0, 0.05, 0.5] : List ℝ) ≠ [] ∧ (0 : ℝ) ∈ ([0, 0.05, 0.5] : List ℝ) ∧ (0 : ℝ) ≤ 0 :=
  ⟨List.cons_ne_nil _ _, List.mem_cons_self, le_rfl⟩

end Xrfmv.Props.C10
