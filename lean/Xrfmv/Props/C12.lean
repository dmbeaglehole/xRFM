/-
C12 — Class probabilities are valid distributions and consistent with labels.

Statements are about the model `Xrfmv.Codec` of `xRFM.predict_proba` / `xRFM.predict` at ONE query row
(xrfm/xrfm.py) on top of the label codec (class_conversion.py, C13), in exact real arithmetic:

  * a leaf turns its raw regression output `raw` into `P raw`, `P` = decode, clamp to `[ε, 1-ε]`,
    renormalise (`ε = 1e-3` in the code; here any `0 < ε < 1`);
  * a hard-routed tree contributes `P raw` of the leaf the row falls into, a soft-routed tree the mixture
    `Σ_l w_l · P raw_l` over its leaves, `w` on the simplex (that the routing weights are on the simplex
    is C09; here a hypothesis `TreeAt.Valid`);
  * `predict_proba` is the mean over `T ≥ 1` trees; `predict` decodes the mean of the raw outputs.

Any number of classes `K = n + 1`, of trees, of leaves; any real leaf outputs (however large).
`IsProb p` : all entries `≥ 0` and `Σ p = 1`.  Floating-point rounding is outside these statements.
-/
import Xrfmv.Props.C09
import Xrfmv.Props.C13

namespace Xrfmv.Props.C12
-- `Xrfmv.Soft` stays closed: its `mixture` and `dot` (over lists) are not `Xrfmv.Codec.mixture` / `dot`.
open Xrfmv.Codec Finset BigOperators

variable {n : ℕ}

/-- The leaf decoders of the code: prevalence (with whatever matrix is stored as `_invA`), zero_one with
one column (binary), zero_one with `K` columns. -/
inductive IsLeafDecoder (ε : ℝ) : {m K : ℕ} → (Vec ℝ m → Vec ℝ K) → Prop
  | prevalence {n : ℕ} (invA : Mat ℝ (n + 1) (n + 1)) : IsLeafDecoder ε (probasPrevInv ε invA)
  | binary : IsLeafDecoder ε (probasBinary ε)
  | multi {n : ℕ} : IsLeafDecoder ε (probasMulti (K := n + 1) ε)

/-- **C12 clamp-normalise**: clamping every entry to `[ε, 1-ε]` and dividing by the sum gives a
probability row, for every real input row (`K ≥ 1`, `0 < ε < 1`). -/
theorem clamp_norm_simplex {K : ℕ} (hK : 1 ≤ K) (ε : ℝ) (h0 : 0 < ε) (h1 : ε < 1) (p : Vec ℝ K) :
    IsProb (clampNorm ε p) :=
  clampNorm_isProb hK h0 h1 p

/-- Every leaf decoder returns a probability row on every real input. -/
theorem leaf_proba_valid (ε : ℝ) (h0 : 0 < ε) (h1 : ε < 1) {m K : ℕ} (P : Vec ℝ m → Vec ℝ K)
    (hP : IsLeafDecoder ε P) (v : Vec ℝ m) : IsProb (P v) := by
  cases hP <;> exact clampNorm_isProb (Nat.succ_pos _) h0 h1 _

/-- **C12 ensembles**: the mean over `T ≥ 1` trees of probability rows is a probability row. -/
theorem mean_simplex {T K : ℕ} (hT : 1 ≤ T) (rows : Fin T → Vec ℝ K) (hr : ∀ t, IsProb (rows t)) :
    IsProb (meanRows rows) :=
  meanRows_isProb hT rows hr

/-- **C12 soft routing**: a convex combination `Σ w_l p_l` (`w ≥ 0`, `Σ w = 1`) of probability rows is
a probability row. -/
theorem mixture_simplex {L K : ℕ} (w : Vec ℝ L) (hw0 : ∀ l, 0 ≤ w l) (hw1 : ∑ l, w l = 1)
    (rows : Fin L → Vec ℝ K) (hr : ∀ l, IsProb (rows l)) : IsProb (mixture w rows) :=
  mixture_isProb w hw0 hw1 rows hr

/-- **C12 validity of `predict_proba`**: for every leaf decoder, any number `T ≥ 1` of trees, each hard-
or soft-routed, and any real leaf outputs, the returned row has non-negative entries summing to one. -/
theorem predict_proba_valid (ε : ℝ) (h0 : 0 < ε) (h1 : ε < 1) {m K T : ℕ} (P : Vec ℝ m → Vec ℝ K)
    (hP : IsLeafDecoder ε P) (hT : 1 ≤ T) (trees : Fin T → TreeAt ℝ m) (hv : ∀ t, (trees t).Valid) :
    IsProb (predictProba P trees) :=
  meanRows_isProb hT _ (fun t => TreeAt.proba_isProb P (leaf_proba_valid ε h0 h1 P hP) (trees t) (hv t))

/-- Entries of `predict_proba` are moreover `≤ 1`. -/
theorem predict_proba_le_one (ε : ℝ) (h0 : 0 < ε) (h1 : ε < 1) {m K T : ℕ} (P : Vec ℝ m → Vec ℝ K)
    (hP : IsLeafDecoder ε P) (hT : 1 ≤ T) (trees : Fin T → TreeAt ℝ m) (hv : ∀ t, (trees t).Valid) (k : Fin K) :
    predictProba P trees k ≤ 1 :=
  (predict_proba_valid ε h0 h1 P hP hT trees hv).le_one k

/-- **C12 labels in range**: `predict` returns a class id in `[0, K)`, `K = n + 1`. -/
theorem labels_in_range {m T : ℕ} (P : Vec ℝ m → Vec ℝ (n + 1)) (trees : Fin T → TreeAt ℝ m) :
    (predictLabel P trees).val < n + 1 :=
  (predictLabel P trees).isLt

/-- **C12 arg-max consistency**: with a single hard-routed tree `predict` is the arg-max (first maximal
index) of the `predict_proba` row – both decode the same leaf output. -/
theorem argmax_consistent {m : ℕ} (P : Vec ℝ m → Vec ℝ (n + 1)) (raw : Vec ℝ m) :
    predictLabel P (fun _ : Fin 1 => TreeAt.hard raw) = argmax n (predictProba P (fun _ : Fin 1 => TreeAt.hard raw)) := by
  simp only [predictLabel, predictProba, predictRaw, TreeAt.raw, TreeAt.proba, meanRows_const Nat.one_pos]

/-- The arg-max is a maximal entry of the probability row (and the first such). -/
theorem predict_is_most_probable {m : ℕ} (P : Vec ℝ m → Vec ℝ (n + 1)) (raw : Vec ℝ m) (k : Fin (n + 1)) :
    let trees := fun _ : Fin 1 => TreeAt.hard raw
    predictProba P trees k ≤ predictProba P trees (predictLabel P trees) ∧
    (k < predictLabel P trees → predictProba P trees k < predictProba P trees (predictLabel P trees)) := by
  intro trees
  rw [argmax_consistent P raw]
  exact ⟨(argmax_spec n _).1 k, (argmax_spec n _).2 k⟩

/-- All leaves of a tree see kernel value 0 against every centre: their raw output `K(x, centres) @ α`
is the zero vector. -/
def _root_.Xrfmv.Codec.TreeAt.Far {m : ℕ} : TreeAt ℝ m → Prop
  | .hard raw => ∃ (N : ℕ) (kv : Vec ℝ N) (W : Mat ℝ N m), raw = leafOut kv W ∧ ∀ c, kv c = 0
  | .soft L _ raws => ∀ l : Fin L, ∃ (N : ℕ) (kv : Vec ℝ N) (W : Mat ℝ N m), raws l = leafOut kv W ∧ ∀ c, kv c = 0

theorem proba_far {m K : ℕ} (P : Vec ℝ m → Vec ℝ K) :
    ∀ t : TreeAt ℝ m, t.Valid → t.Far → t.proba P = P fun _ => 0
  | .hard _, _, ⟨_, kv, W, hraw, hz⟩ => by rw [TreeAt.proba, hraw, leafOut_zero kv W hz]
  | .soft _ w raws, hv, hf => by
    have : raws = fun _ _ => 0 := funext fun l => by
      obtain ⟨_, kv, W, hraw, hz⟩ := hf l
      rw [hraw, leafOut_zero kv W hz]
    rw [TreeAt.proba, this]
    exact mixture_const w hv.2 _

/-- **C12 far rows, prevalence mode**: when every kernel value is 0 (the row is so far from all centres
that the kernel underflows) every leaf outputs the zero vector, which decodes to the prior (C13), so
`predict_proba` returns the clamped-renormalised training frequencies – for any number of trees, hard or
soft routing, and any prior including zero entries – and that row is within `(K + 1) ε` of the
frequencies themselves. -/
theorem far_is_prior (prior : Vec ℝ (n + 1)) (hprior : IsProb prior) (Q : Mat ℝ (n + 1) n) (hQ : QContract Q)
    (invA : Mat ℝ (n + 1) (n + 1))
    (hinv : Matrix.of (augA prior Q) * Matrix.of invA = 1 ∨ Matrix.of invA * Matrix.of (augA prior Q) = 1)
    (ε : ℝ) (h0 : 0 < ε) (h2 : ε ≤ 1 / 2) {T : ℕ} (hT : 1 ≤ T) (trees : Fin T → TreeAt ℝ n)
    (hv : ∀ t, (trees t).Valid) (hfar : ∀ t, (trees t).Far) :
    predictProba (probasPrevInv ε invA) trees = clampNorm ε prior ∧
    ∀ k, |predictProba (probasPrevInv ε invA) trees k - prior k| ≤ ((n + 1 : ℕ) + 1 : ℝ) * ε := by
  have hmain : predictProba (probasPrevInv ε invA) trees = clampNorm ε prior := by
    simp only [predictProba, fun t => proba_far (probasPrevInv ε invA) (trees t) (hv t) (hfar t)]
    rw [meanRows_const hT, probasPrevInv, C13.zero_to_prior prior Q hQ hprior.2 invA hinv]
  exact ⟨hmain, fun k => hmain ▸ clampNorm_near (Nat.succ_pos n) h0 (h2.trans_lt one_half_lt_one) prior hprior k⟩

/-- A two-tree ensemble (one hard, one soft-routed tree with weights `(1/4, 3/4)`) with huge leaf outputs
meets the hypotheses of `predict_proba_valid` for the binary decoder. -/
example : ∃ (trees : Fin 2 → TreeAt ℝ 1), (∀ t, (trees t).Valid) ∧
    IsProb (predictProba (probasBinary (1 / 1000)) trees) := by
  have hv : ∀ t, (![TreeAt.hard (fun _ => (1000000 : ℝ)),
      TreeAt.soft 2 ![1 / 4, 3 / 4] (fun l _ => if l = 0 then -7 else 2)] t : TreeAt ℝ 1).Valid :=
    Fin.forall_fin_two.mpr ⟨trivial,
      Fin.forall_fin_two.mpr ⟨(by norm_num : (0 : ℝ) ≤ 1 / 4), (by norm_num : (0 : ℝ) ≤ 3 / 4)⟩,
      (Fin.sum_univ_two _).trans (by norm_num)⟩
  exact ⟨_, hv, predict_proba_valid _ (by norm_num) (by norm_num) _ IsLeafDecoder.binary one_le_two _ hv⟩

theorem sum_fin_getD (l : List ℝ) {n : ℕ} (h : l.length = n) : ∑ i : Fin n, l.getD i 0 = l.sum := by
  subst h
  rw [← Fin.sum_univ_getElem]
  exact Finset.sum_congr rfl fun i _ => List.getD_eq_getElem _ 0 i.isLt

/-- The per-row state of a soft-routed tree as `_predict_tree_soft` computes it: leaf log-probabilities `lps`, the
sorting permutation `perm` of the soft-max weights (oracle with the sort contract), truncation by `keep` / `cap`, and
the leaves' raw outputs. -/
noncomputable def softTreeOf {m : ℕ} (lps : List ℝ) (keep : ℝ) (cap : ℕ) (perm : List ℕ)
    (raws : Fin lps.length → Vec ℝ m) : TreeAt ℝ m :=
  .soft lps.length
    (fun i => (Xrfmv.Soft.finalWeights keep cap (Xrfmv.Soft.leafWeights lps) perm).2.getD i 0) raws

/-- **C12 (soft routing, unconditional)**: the weights `_predict_tree_soft` mixes the leaf rows with lie on the simplex
(C09 `weights_simplex`), so a soft-routed tree is `Valid` for every temperature, keep fraction, cap and tie-breaking of
the sort — the hypothesis `hv` of `predict_proba_valid` is discharged for the trees the implementation builds. -/
theorem soft_tree_valid {m : ℕ} (lps : List ℝ) (hne : lps ≠ []) (keep : ℝ) (cap : ℕ) (perm : List ℕ)
    (hs : Xrfmv.Soft.SortContract (Xrfmv.Soft.leafWeights lps) perm) (raws : Fin lps.length → Vec ℝ m) :
    (softTreeOf lps keep cap perm raws).Valid := by
  obtain ⟨-, hlen, hnn, hsum, -⟩ := Xrfmv.Props.C09.weights_simplex lps hne keep cap perm hs
  exact ⟨fun l => Xrfmv.Soft.getD_nonneg _ hnn l, (sum_fin_getD _ hlen).trans hsum⟩

/-- **C12 validity of `predict_proba`, no hypothesis on the trees**: every tree is either hard-routed or the soft-routed
tree `_predict_tree_soft` builds (any temperature, keep fraction, cap, sort tie-breaking). -/
theorem predict_proba_valid_built (ε : ℝ) (h0 : 0 < ε) (h1 : ε < 1) {m K T : ℕ} (P : Vec ℝ m → Vec ℝ K)
    (hP : IsLeafDecoder ε P) (hT : 1 ≤ T) (trees : Fin T → TreeAt ℝ m)
    (hb : ∀ t, (∃ raw, trees t = .hard raw) ∨
      ∃ (lps : List ℝ) (_ : lps ≠ []) (keep : ℝ) (cap : ℕ) (perm : List ℕ)
        (_ : Xrfmv.Soft.SortContract (Xrfmv.Soft.leafWeights lps) perm) (raws : Fin lps.length → Vec ℝ m),
        trees t = softTreeOf lps keep cap perm raws) :
    IsProb (predictProba P trees) := by
  refine predict_proba_valid ε h0 h1 P hP hT trees fun t => ?_
  rcases hb t with ⟨raw, h⟩ | ⟨lps, hne, keep, cap, perm, hs, raws, h⟩
  · rw [h]; trivial
  · rw [h]; exact soft_tree_valid lps hne keep cap perm hs raws

section limit
open Filter Topology
-- The continuity lemmas stand here and not in `Lemmas/Codec`, which imports no topology (C13 needs none).

/-- clamp–renormalise is continuous (the divisor is at least `K·min(ε, 1−ε) > 0`). -/
theorem clampNorm_continuous {K : ℕ} (hK : 0 < K) {ε : ℝ} (h0 : 0 < ε) (h1 : ε < 1) :
    Continuous fun p : Vec ℝ K => clampNorm ε p := by
  have hc : ∀ i : Fin K, Continuous fun p : Vec ℝ K => clampVec ε p i := fun i => by
    simp only [clampVec_apply, clamp]
    exact ((continuous_apply i).max continuous_const).min continuous_const
  refine continuous_pi fun i => ?_
  simp only [clampNorm_apply]
  refine (hc i).div (continuous_finsetSum _ fun j _ => hc j) fun p => ?_
  exact ne_of_gt (sum_clampVec_pos hK h0 h1 p)

theorem probasPrevInv_continuous {ε : ℝ} (h0 : 0 < ε) (h1 : ε < 1) (invA : Mat ℝ (n + 1) (n + 1)) :
    Continuous fun v : Vec ℝ n => probasPrevInv ε invA v := by
  have hd : Continuous fun v : Vec ℝ n => decodeInv invA v := by
    refine continuous_pi fun i => ?_
    simp only [decodeInv, mulVec, vsum_eq_sum]
    refine continuous_finsetSum _ fun j _ => continuous_const.mul ?_
    unfold aug
    split
    · exact continuous_apply _
    · exact continuous_const
  exact (clampNorm_continuous (Nat.succ_pos n) h0 h1).comp hd

theorem leafOut_continuous {N m : ℕ} (W : Mat ℝ N m) : Continuous fun kv : Vec ℝ N => leafOut kv W := by
  refine continuous_pi fun j => ?_
  simp only [leafOut, vsum_eq_sum]
  exact continuous_finsetSum _ fun c _ => (continuous_apply c).mul continuous_const

/-- **C12 far rows, the limit at `ℝ`** (the exact-underflow statement is `far_is_prior`): as the kernel
values of a leaf tend to 0 — the query row moves away from all its centres, `Props.C05.lap_tendsto_zero` —
its class probabilities in prevalence mode tend to the clamped-renormalised training frequencies. -/
theorem far_limit_prior (prior : Vec ℝ (n + 1)) (hprior : IsProb prior) (Q : Mat ℝ (n + 1) n) (hQ : QContract Q)
    (invA : Mat ℝ (n + 1) (n + 1))
    (hinv : Matrix.of (augA prior Q) * Matrix.of invA = 1 ∨ Matrix.of invA * Matrix.of (augA prior Q) = 1)
    {ε : ℝ} (h0 : 0 < ε) (h1 : ε < 1) {N : ℕ} (W : Mat ℝ N n) :
    Tendsto (fun kv : Vec ℝ N => probasPrevInv ε invA (leafOut kv W)) (𝓝 0) (𝓝 (clampNorm ε prior)) := by
  have hc : Continuous fun kv : Vec ℝ N => probasPrevInv ε invA (leafOut kv W) :=
    (probasPrevInv_continuous h0 h1 invA).comp (leafOut_continuous W)
  have hz : probasPrevInv ε invA (leafOut (0 : Vec ℝ N) W) = clampNorm ε prior := by
    rw [leafOut_zero (0 : Vec ℝ N) W fun _ => rfl, probasPrevInv, C13.zero_to_prior prior Q hQ hprior.2 invA hinv]
  exact hz ▸ hc.tendsto 0

end limit

end Xrfmv.Props.C12
