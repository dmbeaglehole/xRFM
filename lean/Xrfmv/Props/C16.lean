/-
C16 — Tuning metrics are correct and their optimisation direction is truthful.

Statements are about `Xrfmv.Metrics` (model of `xrfm/rfm_src/metrics.py`: MSE, RMSE, MAE, Accuracy, Brier,
Logloss, F1, AUC) and about the direction table `Xrfmv.Gen.Metrics.flags`, *regenerated from the source* on
every run.  "Correct value" is the correspondence's business (model = textbook definition, compared with the
real `Metric.compute`); here: for every metric, predictions identical to the targets attain the optimum of the
metric's range, and the optimum lies on the side the `should_maximize` flag declares.

All theorems hold for every number of samples, outputs and classes and every value (induction over the
lists).  Value metrics are proved over an arbitrary linearly ordered field `α` (so at `ℝ` and at `ℚ` = core
`Rat`, the type the driver evaluates at); `rmse`, `logloss` at `ℝ` (exact real arithmetic – rounding is
outside every theorem).  Regression arrays are `samples × outputs` matrices, probabilities
`samples × classes`, `perfect K y` = the one-hot rows of the labels, `ValidLabels K y` = labels in `0..K-1`
with every class present.
-/
import Xrfmv.Lemmas.Metrics
import Xrfmv.Model.MetricOps

namespace Xrfmv.Props.C16
open Xrfmv.Metrics

section Field
variable {α : Type} [Field α] [LinearOrder α] [IsStrictOrderedRing α]

/-- **C16 (mse, a loss)** Predictions identical to the targets have error `0`, and no predictions have a
smaller one. -/
theorem mse_perfect_is_optimal (Y P : List (List α)) : mse Y Y = 0 ∧ 0 ≤ mse Y P :=
  ⟨mse_self Y, mse_nonneg Y P⟩

/-- **C16 (accuracy, a score)** Accuracy never exceeds `1`; it equals `1` whenever the arg-max labels (first
maximal index) are the targets – in particular for the one-hot rows of the targets. -/
theorem accuracy_perfect_is_optimal {K : ℕ} (y : List ℕ) (P Q : List (List α)) (hK : 2 ≤ K)
    (hy : ValidLabels K y) (hQ : predLabels Q = y) :
    0 ≤ accuracy y P ∧ accuracy y P ≤ 1 ∧ accuracy y Q = 1 ∧ accuracy y (perfect K y : List (List α)) = 1 :=
  ⟨accuracyL_nonneg _ _, accuracy_le_one y P, accuracy_eq_one (hy.ne_nil hK) hQ, accuracy_perfect hK hy⟩

/-- **C16 (brier, a loss)** The Brier loss as the code computes it (mean over samples × classes of the squared
difference to the one-hot matrix) is `≥ 0`, and `0` at the one-hot rows of the targets. -/
theorem brier_perfect_is_optimal {K : ℕ} (y : List ℕ) (P : List (List α)) (hK : 2 ≤ K) (hy : ValidLabels K y) :
    brier y (perfect K y : List (List α)) = 0 ∧ 0 ≤ brier y P :=
  ⟨brier_perfect (hy.ne_nil hK), brier_nonneg y P⟩

/-- **C16 (f1, a score)** F1 (binary with positive class 1 for two classes, macro otherwise; zero division
counted as 0) never exceeds `1`; it equals `1` whenever the arg-max labels are the targets and every class is
present – in particular for the one-hot rows. -/
theorem f1_perfect_is_optimal {K : ℕ} (y : List ℕ) (P Q : List (List α)) (hK : 2 ≤ K) (hy : ValidLabels K y)
    (hQ : predLabels Q = y) (hQK : numClasses Q = K) :
    f1 y P ≤ 1 ∧ f1 y Q = 1 ∧ f1 y (perfect K y : List (List α)) = 1 :=
  ⟨f1_le_one y P, f1_eq_one hQK (Nat.lt_of_lt_of_le Nat.two_pos hK) hy.2 hQ, f1_perfect hK hy⟩

/-- **C16 (auc, a score)** AUC (pair counting, ties ½; class 1 against class 0 for two classes, unweighted
one-vs-rest mean otherwise) never exceeds `1`; it equals `1` whenever, for every class that enters the mean,
every positive is scored strictly above every negative – in particular for the one-hot rows. -/
theorem auc_perfect_is_optimal {K : ℕ} (y : List ℕ) (P Q : List (List α)) (hK : 2 ≤ K) (hy : ValidLabels K y)
    (hQK : numClasses Q = K)
    (hQ : ∀ c < K, (K = 2 → c = 1) → Separated c y (column c Q)) :
    auc y P ≤ 1 ∧ auc y Q = 1 ∧ auc y (perfect K y : List (List α)) = 1 :=
  ⟨auc_le_one y P, auc_eq_one hQK (Nat.lt_of_lt_of_le Nat.two_pos hK) hQ, auc_perfect hK hy⟩

end Field

/-- **C16 (mae, a loss)**, at `ℝ`. -/
theorem mae_perfect_is_optimal (Y P : List (List ℝ)) : mae Y Y = 0 ∧ 0 ≤ mae Y P :=
  ⟨mae_self abs_real Y, mae_nonneg abs_real Y P⟩

/-- **C16 (mae, a loss)**, at `ℚ` (the type the driver evaluates at). -/
theorem mae_perfect_is_optimal_rat (Y P : List (List ℚ)) : mae Y Y = 0 ∧ 0 ≤ mae Y P :=
  ⟨mae_self abs_rat Y, mae_nonneg abs_rat Y P⟩

/-- **C16 (rmse, a loss)** `rmse` is the square root of `mse`, hence `0` at the targets, `≥ 0` everywhere,
and it orders predictions exactly as `mse` does (monotone). -/
theorem rmse_perfect_is_optimal (Y P Q : List (List ℝ)) :
    rmse Y P = Real.sqrt (mse Y P) ∧ rmse Y Y = 0 ∧ 0 ≤ rmse Y P ∧
      (rmse Y P ≤ rmse Y Q ↔ mse Y P ≤ mse Y Q) :=
  ⟨rfl, rmse_self Y, rmse_nonneg Y P, rmse_le_iff Y P Q⟩

/-- **C16 (logloss, a loss)** The log-loss is `0` at the one-hot rows of the targets and `≥ 0` for every
probability matrix with entries in `(0, 1]`. -/
theorem logloss_perfect_is_optimal {K : ℕ} (y : List ℕ) (P : List (List ℝ)) (hy : ValidLabels K y)
    (hP : ProbEntries P) :
    logloss y (perfect K y : List (List ℝ)) = 0 ∧ 0 ≤ logloss y P :=
  ⟨logloss_perfect hy.1, logloss_nonneg y P hP⟩

/-- **C16 over the regenerated source (mean-type metrics).**  The `_compute` chains of MSE, RMSE, MAE and Brier as they are written
now (translated into `Gen.MetricOps` on every run: which arrays are subtracted, `.square()` or `.abs()`, `.mean()` over all
entries, a final `.sqrt()` for RMSE only) evaluate exactly the metrics of `Model/Metrics.lean` — the ones for which the theorems
above prove that perfect predictions are optimal in the declared direction. -/
theorem gen_mean_metrics_eq_model (Y P : List (List ℝ)) (y : List ℕ) :
    MetricOps.evalMean Gen.MetricOps.mse Y.flatten P.flatten = mse Y P ∧
    MetricOps.evalMean Gen.MetricOps.rmse Y.flatten P.flatten = rmse Y P ∧
    MetricOps.evalMean Gen.MetricOps.mae Y.flatten P.flatten = mae Y P ∧
    MetricOps.evalMean Gen.MetricOps.brier (perfect (numClasses P) y : List (List ℝ)).flatten P.flatten = brier y P :=
  -- each regenerated chain evaluates to the `zipWith` form of the model's metric
  ⟨(mse_eq_mean Y P).symm, congrArg Real.sqrt (mse_eq_mean Y P).symm, (mae_eq_mean Y P).symm, (mse_eq_mean _ P).symm⟩

/-- … each of them takes its mean over all entries, subtracts the predictions from the targets (for Brier: from the one-hot rows of
the labels, with as many classes as the probability array has columns). -/
theorem gen_mean_metrics_shape :
    [Gen.MetricOps.mse, Gen.MetricOps.rmse, Gen.MetricOps.mae, Gen.MetricOps.brier].all (·.meanOverAllEntries) = true ∧
    Gen.MetricOps.mse.subtrahend = "y_pred" ∧ Gen.MetricOps.mse.minuend = "y_true_reg" ∧
    Gen.MetricOps.brier.subtrahend = "y_pred_proba" := by decide +kernel

/-- Each of the eight built-in metrics is truthful in its own direction: the three scores upwards, the five
losses downwards.  The two table theorems below only compare the regenerated flags with this. -/
theorem perfectOptimal_builtin :
    ∀ n ∈ builtin, PerfectOptimal n (n = "accuracy" ∨ n = "f1" ∨ n = "auc" : Bool) := by
  simp only [builtin, List.forall_mem_cons]
  exact ⟨perfectOptimal_mse, perfectOptimal_rmse, perfectOptimal_mae, perfectOptimal_accuracy,
    perfectOptimal_brier, perfectOptimal_logloss, perfectOptimal_f1, perfectOptimal_auc, fun _ h => nomatch h⟩

/-- **C16 (direction is truthful)** For EVERY entry `(name, should_maximize)` of the table regenerated from
the current source, predictions identical to the targets score at least as well as any other predictions in
the declared direction (`PerfectOptimal`, `Lemmas/Metrics.lean`: `metric(perfect) ≤ metric(P)` for a flag
`false`, `≥` for `true`).  A flipped flag in the source changes `Gen.Metrics.flags` and this proof fails. -/
theorem direction_table : ∀ e ∈ Xrfmv.Gen.Metrics.flags, PerfectOptimal e.1 e.2 := by
  have tbl : ∀ e ∈ Xrfmv.Gen.Metrics.flags,
      e.1 ∈ builtin ∧ e.2 = decide (e.1 = "accuracy" ∨ e.1 = "f1" ∨ e.1 = "auc") := by decide +kernel
  exact fun e he => (tbl e he).2 ▸ perfectOptimal_builtin e.1 (tbl e he).1

/-- **C16 (direction, every metric covered)** Each of the eight built-in metric names has a flag in the
regenerated table, and that flag is truthful: losses `false`, scores `true`. -/
theorem direction_covers_builtin :
    ∀ n ∈ builtin, ∃ b, shouldMaximize n = some b ∧ PerfectOptimal n b ∧
      b = (n = "accuracy" ∨ n = "f1" ∨ n = "auc" : Bool) := by
  have tbl : ∀ n ∈ builtin, shouldMaximize n = some (decide (n = "accuracy" ∨ n = "f1" ∨ n = "auc")) := by
    decide +kernel
  exact fun n hn => ⟨_, tbl n hn, perfectOptimal_builtin n hn, rfl⟩

/-- **C16 (the flag matters)** The opposite direction is not truthful: a loss declared `should_maximize`
(or a score declared a loss) does not satisfy `PerfectOptimal`, so `direction_table` cannot survive a flip. -/
theorem flipped_direction_is_false : ¬ PerfectOptimal "mse" true ∧ ¬ PerfectOptimal "accuracy" false := by
  refine ⟨fun h => ?_, fun h => ?_⟩
  · have h1 : mse [[(1 : ℝ)]] [[0]] ≤ mse [[(1 : ℝ)]] [[1]] := h [[1]] [[0]]
    rw [mse_self] at h1
    norm_num [mse, mseFlat, sqDiffs, sumL] at h1
  · have hv : ValidLabels 2 [0, 1] := by unfold ValidLabels; decide
    -- the one-hot rows of the swapped labels predict every sample wrongly
    have h1 : accuracy [0, 1] (perfect 2 [0, 1] : List (List ℝ)) ≤ accuracy [0, 1] (perfect 2 [1, 0] : List (List ℝ)) :=
      h 2 [0, 1] (perfect 2 [1, 0]) le_rfl hv
    rw [accuracy_perfect le_rfl hv, accuracy, predLabels_perfect (by decide)] at h1
    exact absurd h1 (by decide +kernel)

/-! Non-vacuity: the hypotheses are met by concrete, non-trivial instances. -/

example : ValidLabels 3 [0, 2, 1, 2] := by unfold ValidLabels; decide

example : ProbEntries [[(1 : ℝ) / 4, 3 / 4], [1, 1 / 1000000]] := by
  intro r hr p hp
  simp only [List.mem_cons, List.not_mem_nil, or_false] at hr
  rcases hr with rfl | rfl <;> simp only [List.mem_cons, List.not_mem_nil, or_false] at hp <;>
    rcases hp with rfl | rfl <;> norm_num

/-- A non-one-hot probability matrix whose arg-max labels are the targets and which separates class 1. -/
example : predLabels [[(3 : ℚ) / 5, 2 / 5], [1 / 5, 4 / 5]] = [0, 1] ∧
    numClasses [[(3 : ℚ) / 5, 2 / 5], [1 / 5, 4 / 5]] = 2 ∧
    Separated 1 [0, 1] (column 1 [[(3 : ℚ) / 5, 2 / 5], [1 / 5, 4 / 5]]) := by
  unfold Separated
  decide +kernel

/-- and a strictly worse competitor exists, so the optimality statements are not about a constant. -/
example : mse [[(1 : ℚ), 2]] [[1, 4]] = 2 ∧ accuracy [0, 1] [[(1 : ℚ), 0], [1, 0]] = 1 / 2 := by
  decide +kernel

end Xrfmv.Props.C16
