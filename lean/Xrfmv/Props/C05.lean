/-
C05 — Kernel matrices match their mathematical definitions.

The definitions are `Xrfmv.Kernel` (`Model/Kernel.lean`, scalar-generic; executed at `Float` by the
driver and compared with the real `get_kernel_matrix` / `RFM.kernel`), read here at `ℝ`:
  `entry K T x z` = one matrix entry, `K : Spec ℝ` the kernel object, `T` the feature transform
  (`none` / `diag v` / `full cols`, applied as `x ↦ x·mat`; for the light kernel `T` is `M` itself).
All statements are for every dimension and every pair of points (lists of any length).
Exact real arithmetic: floating-point rounding is outside the theorems (the correspondence absorbs
it in a computed allowance).

Positive semi-definiteness for `0 < q ≤ p ≤ 2` (`C05_psd`, Schoenberg's theorem) is proved in full
(`C05_psd_holds`; `Lemmas/PsdKernel.lean`, `Lemmas/PsdBernstein.lean`, `Lemmas/PsdLpq.lean`,
`Lemmas/KernelPsd.lean`), with the L2, product and memory-light kernels as corollaries; the sum-power
kernel with a natural power is PSD as well (`psd_sumPower_nat`).
-/
import Xrfmv.Lemmas.Kernel
import Xrfmv.Lemmas.KernelPsd
import Xrfmv.Lemmas.KernelGen

namespace Xrfmv.Props.C05
open Xrfmv Xrfmv.Kernel

/-- Guards on the parameters (what the constructors assert, and `P ≥ 1`). -/
def Valid : Spec ℝ → Prop
  | .laplace q L | .light q L | .product q L => 0 < L ∧ 0 < q
  | .lpq p q L => 0 < L ∧ 0 < q ∧ 0 < p
  | .sumPower q L c P => 0 < L ∧ 0 < q ∧ 0 ≤ c ∧ c < 1 ∧ 1 ≤ P

/-- **C05 symmetry.** `k(x,z) = k(z,x)` for every kernel and transform.  For the memory-light kernel
the matrix `M` it is given must define a symmetric bilinear form at these two points (`hM`; true for
`none`, every `diag v` and every symmetric full matrix: `symmForm_none/diag/full` below). -/
theorem symm (K : Spec ℝ) (T : Transform ℝ) (x z : List ℝ)
    (hM : K.isLight = true → dot (applyT T x) z = dot (applyT T z) x) :
    entry K T x z = entry K T z x := by
  cases K with
  | laplace q L => exact congrArg (lap q L) (pdist_comm 2 _ _)
  | light q L =>
    show lightEntry q L T x z = lightEntry q L T z x
    rw [lightEntry_eq, lightEntry_eq, lightSq_comm (hM rfl)]
  | product q L => exact congrArg (fun s => exp (-s / rpow L q)) (powSum_comm q _ _)
  | lpq p q L => exact congrArg (lap q L) (pdist_comm p _ _)
  | sumPower q L c P =>
    show sumPowerCore q L c P _ _ = sumPowerCore q L c P _ _
    rw [sumPowerCore, sumPowerCore, absDiffs_comm]

/-- The hypothesis `hM` of `symm` for the light kernel holds when there is no `M`. -/
theorem symmForm_none (x z : List ℝ) : dot (applyT .none x) z = dot (applyT .none z) x :=
  dot_comm x z

/-- The hypothesis `hM` of `symm` holds for every diagonal `M`. -/
theorem symmForm_diag (v x z : List ℝ) : dot (applyT (.diag v) x) z = dot (applyT (.diag v) z) x := by
  -- both sides are `Σᵢ xᵢ vᵢ zᵢ` over the common length of the three lists; term by term:
  refine congrArg sumL (?_ : List.zipWith (· * ·) (List.zipWith (· * ·) x v) z
    = List.zipWith (· * ·) (List.zipWith (· * ·) z v) x)
  induction x generalizing v z with
  | nil => cases z <;> cases v <;> rfl
  | cons a x ih =>
    cases v with
    | nil => cases z <;> rfl
    | cons b v =>
      cases z with
      | nil => rfl
      | cons e z => exact congrArg₂ List.cons (by ring) (ih v z)

/-- The hypothesis `hM` of `symm` holds for every symmetric full `M` (any dimension `d`). -/
theorem symmForm_full {d : ℕ} (M : Matrix (Fin d) (Fin d) ℝ) (hM : M.IsSymm) (x z : Fin d → ℝ) :
    dot (applyT (.full (colsOf M)) (List.ofFn x)) (List.ofFn z) =
      dot (applyT (.full (colsOf M)) (List.ofFn z)) (List.ofFn x) := by
  simp only [applyT_full_ofFn, dot_ofFn]
  rw [← Matrix.dotProduct_mulVec, ← Matrix.vecMul_transpose, hM.eq, dotProduct_comm]

theorem Valid.q_pos : ∀ {K : Spec ℝ}, Valid K → 0 < K.q
  | .laplace .., h | .light .., h | .product .., h => h.2
  | .lpq .., h | .sumPower .., h => h.2.1

theorem Valid.L_pos : ∀ {K : Spec ℝ}, Valid K → 0 < K.L
  | .laplace .., h | .light .., h | .product .., h | .lpq .., h | .sumPower .., h => h.1

theorem Valid.p_pos {p q L : ℝ} (h : Valid (.lpq p q L)) : 0 < p := h.2.2

theorem Valid.c_nonneg {q L c P : ℝ} (h : Valid (.sumPower q L c P)) : 0 ≤ c := h.2.2.1

theorem Valid.c_lt_one {q L c P : ℝ} (h : Valid (.sumPower q L c P)) : c < 1 := h.2.2.2.1

theorem Valid.one_le_P {q L c P : ℝ} (h : Valid (.sumPower q L c P)) : 1 ≤ P := h.2.2.2.2

theorem Valid.entry_eq {K : Spec ℝ} (hK : Valid K) (hs : K.isSumPower = false) (T : Transform ℝ) (x z : List ℝ) :
    entry K T x z = lap K.q K.L (dist K T x z) :=
  entry_eq_lap_dist K hs (fun _ _ e => by subst e; exact hK.q_pos) T x z

theorem dist_self (K : Spec ℝ) (hK : Valid K) (T : Transform ℝ) (x : List ℝ) : dist K T x x = 0 := by
  cases K with
  | laplace q L => exact pdist_self two_pos _
  | light q L => show Real.sqrt (max (lightSq T x x) 0) = 0; rw [lightSq_self, max_self, Real.sqrt_zero]
  | product q L => exact pdist_self hK.q_pos _
  | lpq p q L => exact pdist_self hK.p_pos _
  | sumPower q L c P => rfl

/-- **C05 unit diagonal.** `k(x,x) = 1` (sum-power: at least one feature after the transform). -/
theorem diag_one (K : Spec ℝ) (hK : Valid K) (T : Transform ℝ) (x : List ℝ)
    (hne : K.isSumPower = true → applyT T x ≠ []) :
    entry K T x x = 1 := by
  cases K with
  | sumPower q L c P => exact sumPowerCore_self hK.q_pos _ _ _ (hne rfl)
  | _ => rw [hK.entry_eq rfl, dist_self _ hK, lap_zero hK.q_pos]

/-- **C05 range.** `0 < k(x,z) ≤ 1`. -/
theorem range (K : Spec ℝ) (hK : Valid K) (T : Transform ℝ) (x z : List ℝ)
    (hne : K.isSumPower = true → applyT T x ≠ [] ∧ applyT T z ≠ []) :
    0 < entry K T x z ∧ entry K T x z ≤ 1 := by
  cases K with
  | sumPower q L c P =>
    exact sumPowerCore_mem_Ioc hK.L_pos hK.c_nonneg hK.c_lt_one hK.one_le_P (absDiffs_ne_nil (hne rfl).1 (hne rfl).2)
  | _ =>
    rw [hK.entry_eq rfl]
    exact ⟨lap_pos _ _ _, lap_le_one hK.L_pos (dist_nonneg _ T x z)⟩

/-- **C05 light = L2 (distance).** For symmetric `T` and `M = T·T` the expansion
`xᵀMx − 2xᵀMz + zᵀMz` the light kernel computes equals `‖xT − zT‖₂²` (every dimension `d`). -/
theorem light_expansion {d : ℕ} (T : Matrix (Fin d) (Fin d) ℝ) (hT : T.IsSymm) (x z : Fin d → ℝ) :
    lightSq (.full (colsOf (T * T))) (List.ofFn x) (List.ofFn z) =
      powSum 2 (applyT (.full (colsOf T)) (List.ofFn x)) (applyT (.full (colsOf T)) (List.ofFn z)) :=
  lightSq_eq_powSum (applyT_full_ofFn T) (fun a b => by rw [applyT_full_ofFn, dot_ofFn, vecMul_sq_dot T hT]) x z

private theorem light_of_sq {q L : ℝ} {M T : Transform ℝ} {x z : List ℝ}
    (h : lightSq M x z = powSum 2 (applyT T x) (applyT T z)) :
    entry (.light q L) M x z = entry (.laplace q L) T x z := by
  show lightEntry q L M x z = lap q L (pdist 2 (applyT T x) (applyT T z))
  rw [lightEntry_eq_lap, h, max_eq_left (powSum_nonneg _ _ _), pdist_two, sqrt_real]

/-- **C05 light = L2.** The memory-light kernel given `M = T·T` (symmetric `T`) and the L2 kernel
given `T` have the same entries: full, diagonal and absent transform. -/
theorem light_eq_l2 {d : ℕ} {q L : ℝ} (T : Matrix (Fin d) (Fin d) ℝ) (hT : T.IsSymm)
    (x z : Fin d → ℝ) :
    entry (.light q L) (.full (colsOf (T * T))) (List.ofFn x) (List.ofFn z) =
      entry (.laplace q L) (.full (colsOf T)) (List.ofFn x) (List.ofFn z) :=
  light_of_sq (light_expansion T hT x z)

theorem light_eq_l2_diag {d : ℕ} {q L : ℝ} (v x z : Fin d → ℝ) :
    entry (.light q L) (.diag (List.ofFn fun i => v i * v i)) (List.ofFn x) (List.ofFn z) =
      entry (.laplace q L) (.diag (List.ofFn v)) (List.ofFn x) (List.ofFn z) :=
  light_of_sq <| lightSq_eq_powSum (applyT_diag_ofFn v) (fun a b => by
    rw [applyT_diag_ofFn, dot_ofFn]
    exact Finset.sum_congr rfl fun i _ => by ring) x z

theorem light_eq_l2_none {d : ℕ} {q L : ℝ} (x z : Fin d → ℝ) :
    entry (.light q L) .none (List.ofFn x) (List.ofFn z) =
      entry (.laplace q L) .none (List.ofFn x) (List.ofFn z) :=
  light_of_sq (lightSq_eq_powSum (f := id) (fun _ => rfl) dot_ofFn x z)

/-- Non-vacuity: the guards are met by concrete kernels of every class, and the light/L2 statement by
a concrete non-diagonal symmetric matrix. -/
example : Valid (.laplace 1.3 2) ∧ Valid (.light 0.7 0.01) ∧ Valid (.product 1 100) ∧
    Valid (.lpq 1.5 0.7 3) ∧ Valid (.sumPower 1.3 2 0.2 3) := by
  unfold Valid; norm_num

example : (!![2, 1; 1, 3] : Matrix (Fin 2) (Fin 2) ℝ).IsSymm :=
  Matrix.IsSymm.ext <| Fin.forall_fin_two.2 ⟨Fin.forall_fin_two.2 ⟨rfl, rfl⟩, Fin.forall_fin_two.2 ⟨rfl, rfl⟩⟩

/-- **C05 product kernel.** `exp(−Σ_d|Δ_d|^q / L^q)` is the Lpq kernel with `p = q`; the L2 kernel is
the Lpq kernel with `p = 2` (by definition). -/
theorem product_is_lpq_pp {q : ℝ} (hq : 0 < q) (L : ℝ) (T : Transform ℝ) (x z : List ℝ) :
    entry (.product q L) T x z = entry (.lpq q q L) T x z :=
  productCore_eq_lpq hq L _ _

theorem laplace_is_lpq_2q (q L : ℝ) (T : Transform ℝ) (x z : List ℝ) :
    entry (.laplace q L) T x z = entry (.lpq 2 q L) T x z := rfl

/-- **C05 closed forms**, spelled out at `ℝ` (what "matches its definition" means). -/
theorem lpq_closed_form (p q L : ℝ) (T : Transform ℝ) (x z : List ℝ) :
    entry (.lpq p q L) T x z =
      Real.exp (-((((absDiffs (applyT T x) (applyT T z)).map fun t => t ^ p).sum ^ (1 / p)) ^ q) / L ^ q) := by
  simp only [entry, coreEntry, lpqCore, lap, pdist, powSum, sumL_eq_sum, rpow_real, exp_real]

theorem sumPower_closed_form (q L c P : ℝ) (T : Transform ℝ) (x z : List ℝ) :
    entry (.sumPower q L c P) T x z =
      ((1 - c) * (((absDiffs (applyT T x) (applyT T z)).map fun t => Real.exp (-(t ^ q) / L ^ q)).sum /
        ((absDiffs (applyT T x) (applyT T z)).length : ℝ)) + c) ^ P := by
  simp only [entry, coreEntry, sumPowerCore, sumL_eq_sum, count_eq_length, rpow_real, exp_real,
    List.length_map]

/-- **C05 row-locality.** The matrix is the map `(i,j) ↦ k(x_i, z_j)`: row `i` is a function of `x_i`
and `zs` only (for a fixed bandwidth).  Holds for every scalar type, `Float` included. -/
theorem row_formula {α : Type} [Add α] [Sub α] [Mul α] [Div α] [Neg α] [OfNat α 0] [OfNat α 1] [OfNat α 2]
    [Max α] [HasExp α] [HasRpow α] [HasAbs α]
    (K : Spec α) (T : Transform α) (xs zs : List (List α)) (i : ℕ) :
    (matrix K T xs zs)[i]? = xs[i]?.map fun x => zs.map fun z => entry K T x z :=
  List.getElem?_map

theorem row_local {α : Type} [Add α] [Sub α] [Mul α] [Div α] [Neg α] [OfNat α 0] [OfNat α 1] [OfNat α 2]
    [Max α] [HasExp α] [HasRpow α] [HasAbs α]
    (K : Spec α) (T : Transform α) (xs xs' zs : List (List α)) (i : ℕ) (h : xs[i]? = xs'[i]?) :
    (matrix K T xs zs)[i]? = (matrix K T xs' zs)[i]? := by
  rw [row_formula, row_formula, h]

/-- The matrix the driver computes (rows transformed once) is that map. -/
theorem driver_matrix_eq {α : Type} [Add α] [Sub α] [Mul α] [Div α] [Neg α] [OfNat α 0] [OfNat α 1] [OfNat α 2]
    [Max α] [HasExp α] [HasRpow α] [HasAbs α]
    (K : Spec α) (T : Transform α) (xs zs : List (List α)) : matrixFast K T xs zs = matrix K T xs zs :=
  matrixFast_eq K T xs zs

/-- The Laplace profile `exp(−d^q/L^q)` tends to 0 as the distance grows (`q > 0`, `L > 0`): far from all
centres every kernel value vanishes (used by C12's far-row limit). -/
theorem lap_tendsto_zero {q L : ℝ} (hq : 0 < q) (hL : 0 < L) :
    Filter.Tendsto (fun d : ℝ => lap q L d) Filter.atTop (nhds 0) := by
  have h1 : Filter.Tendsto (fun d : ℝ => d ^ q / L ^ q) Filter.atTop Filter.atTop :=
    (tendsto_rpow_atTop hq).atTop_div_const (Real.rpow_pos_of_pos hL q)
  have h2 := Real.tendsto_exp_neg_atTop_nhds_zero.comp h1
  refine h2.congr fun d => ?_
  simp only [Function.comp, lap, rpow_real, exp_real, neg_div]

/-- **C05 PSD — full statement.** For `0 < q ≤ p ≤ 2`, `L > 0`, any transform, any dimension `d` and
any finite point set, the Gram matrix of the Lpq kernel (hence of the L2, light and product kernels:
`psd_laplace`, `psd_product`, `psd_light*` below) is positive semi-definite. -/
def C05_psd : Prop :=
  ∀ (p q L : ℝ), 0 < q → q ≤ p → p ≤ 2 → 0 < L →
  ∀ (T : Transform ℝ) (d n : ℕ) (xs : Fin n → Fin d → ℝ) (w : Fin n → ℝ),
    0 ≤ ∑ i, ∑ j, w i * w j * entry (.lpq p q L) T (List.ofFn (xs i)) (List.ofFn (xs j))

/-- **`C05_psd` holds** (Schoenberg).  `(s−t)²` is conditionally negative definite; such kernels are
closed under `ψ ↦ ψ^a`, `0 < a ≤ 1` (Bernstein representation of `r^a` as a mixture of `1 − e^{−tr}`),
under sums over coordinates, and `exp(−ψ)` of one is positive semi-definite (power series and the
Schur product theorem). -/
theorem C05_psd_holds : C05_psd :=
  fun _ _ _ hq hqp hp2 hL T d _ xs w => (entry_lpq_posSemidef hq hqp hp2 hL T d).sum_mul_nonneg xs w

/-- L2 Laplace kernel (`LaplaceKernel`: `'l2'`, `'l2_high_dim'`, …), exponent `0 < q ≤ 2`. -/
theorem psd_laplace {q L : ℝ} (hq : 0 < q) (hq2 : q ≤ 2) (hL : 0 < L) (T : Transform ℝ) {d n : ℕ}
    (xs : Fin n → Fin d → ℝ) (w : Fin n → ℝ) :
    0 ≤ ∑ i, ∑ j, w i * w j * entry (.laplace q L) T (List.ofFn (xs i)) (List.ofFn (xs j)) :=
  C05_psd_holds 2 q L hq hq2 le_rfl hL T d n xs w

/-- Product Laplace kernel (`'l1'`, `'product_laplace'`), exponent `0 < q ≤ 2`. -/
theorem psd_product {q L : ℝ} (hq : 0 < q) (hq2 : q ≤ 2) (hL : 0 < L) (T : Transform ℝ) {d n : ℕ}
    (xs : Fin n → Fin d → ℝ) (w : Fin n → ℝ) :
    0 ≤ ∑ i, ∑ j, w i * w j * entry (.product q L) T (List.ofFn (xs i)) (List.ofFn (xs j)) := by
  simpa only [product_is_lpq_pp hq] using C05_psd_holds q q L hq le_rfl hq2 hL T d n xs w

/-- Memory-light L2 kernel given `M = T·T` with `T` symmetric (what the fit hands it), exponent `0 < q ≤ 2`. -/
theorem psd_light {q L : ℝ} (hq : 0 < q) (hq2 : q ≤ 2) (hL : 0 < L) {d n : ℕ}
    (T : Matrix (Fin d) (Fin d) ℝ) (hT : T.IsSymm) (xs : Fin n → Fin d → ℝ) (w : Fin n → ℝ) :
    0 ≤ ∑ i, ∑ j, w i * w j *
      entry (.light q L) (.full (colsOf (T * T))) (List.ofFn (xs i)) (List.ofFn (xs j)) := by
  simpa only [light_eq_l2 T hT] using psd_laplace hq hq2 hL (.full (colsOf T)) xs w

/-- Memory-light L2 kernel given a diagonal `M = v²`, exponent `0 < q ≤ 2`. -/
theorem psd_light_diag {q L : ℝ} (hq : 0 < q) (hq2 : q ≤ 2) (hL : 0 < L) {d n : ℕ}
    (v : Fin d → ℝ) (xs : Fin n → Fin d → ℝ) (w : Fin n → ℝ) :
    0 ≤ ∑ i, ∑ j, w i * w j *
      entry (.light q L) (.diag (List.ofFn fun i => v i * v i)) (List.ofFn (xs i)) (List.ofFn (xs j)) := by
  simpa only [light_eq_l2_diag] using psd_laplace hq hq2 hL (.diag (List.ofFn v)) xs w

/-- Memory-light L2 kernel given no `M`, exponent `0 < q ≤ 2`. -/
theorem psd_light_none {q L : ℝ} (hq : 0 < q) (hq2 : q ≤ 2) (hL : 0 < L) {d n : ℕ}
    (xs : Fin n → Fin d → ℝ) (w : Fin n → ℝ) :
    0 ≤ ∑ i, ∑ j, w i * w j * entry (.light q L) .none (List.ofFn (xs i)) (List.ofFn (xs j)) := by
  simpa only [light_eq_l2_none] using psd_laplace hq hq2 hL .none xs w

/-- Beyond the claim of C05 (which is about the Laplace family): the sum-power kernel
`((1−c)·mean_d exp(−|Δ_d|^q/L^q) + c)^P` is positive semi-definite too for `0 < q ≤ 2`, `0 ≤ c ≤ 1` and a
natural power `P` (mean of one-dimensional PSD kernels, a non-negative constant, Schur powers). -/
theorem psd_sumPower_nat {q L c : ℝ} (hq : 0 < q) (hq2 : q ≤ 2) (hL : 0 < L) (hc0 : 0 ≤ c) (hc1 : c ≤ 1)
    (P : ℕ) (T : Transform ℝ) {d n : ℕ} (xs : Fin n → Fin d → ℝ) (w : Fin n → ℝ) :
    0 ≤ ∑ i, ∑ j, w i * w j * entry (.sumPower q L c (P : ℝ)) T (List.ofFn (xs i)) (List.ofFn (xs j)) :=
  (entry_sumPower_posSemidef hq hq2 hL hc0 hc1 P T d).sum_mul_nonneg xs w

/-- Non-vacuity / sharpness: the hypotheses are met by the defaults (`p = 2`, `q = 1`), and the
statement is about a kernel that is not constant (two distinct points give an entry below 1). -/
example : (0 : ℝ) < 1 ∧ (1 : ℝ) ≤ 2 ∧ (2 : ℝ) ≤ 2 ∧ (0 : ℝ) < 5 := by norm_num

/-- A symmetric `2 × 2` matrix with unit diagonal and off-diagonal entry `k ∈ [0, 1]` is positive semi-definite: its form
is `k (a + b)² + (1 − k)(a² + b²)`. -/
theorem two_point_nonneg {k : ℝ} (h0 : 0 ≤ k) (h1 : k ≤ 1) (a b : ℝ) :
    0 ≤ a * a * 1 + a * b * k + b * a * k + b * b * 1 :=
  (add_nonneg (mul_nonneg h0 (sq_nonneg (a + b)))
    (mul_nonneg (sub_nonneg.2 h1) (add_nonneg (sq_nonneg a) (sq_nonneg b)))).trans_eq (by ring)

/-- What follows from symmetry, unit diagonal and range alone: every `2 × 2` Gram matrix (two points) is
positive semi-definite — for every kernel and every parameter value, not only `q ≤ p ≤ 2` (and not only
natural powers of the sum-power kernel). -/
theorem psd_two_points_partial (K : Spec ℝ) (hK : Valid K) (T : Transform ℝ) (x z : List ℝ)
    (hM : K.isLight = true → dot (applyT T x) z = dot (applyT T z) x)
    (hne : K.isSumPower = true → applyT T x ≠ [] ∧ applyT T z ≠ []) (a b : ℝ) :
    0 ≤ a * a * entry K T x x + a * b * entry K T x z + b * a * entry K T z x + b * b * entry K T z z := by
  rw [diag_one K hK T x fun h => (hne h).1, diag_one K hK T z fun h => (hne h).2, ← symm K T x z hM]
  obtain ⟨h0, h1⟩ := range K hK T x z hne
  exact two_point_nonneg h0.le h1 a b

/-- **C05, matrices match their definitions — over the regenerated source.**  For every CPU kernel class the chain of
tensor operations of its `_get_kernel_matrix_impl` as the source reads when the check runs (creation of the distance
matrix, `clamp_`, `sqrt_`, `pow_`, the call of `_adapt_bandwidth`, `mul_`, `exp_`, for the sum-power kernel `abs_`, the
reduction over the feature axis, `add_`; translated statement by statement into `Gen.KernelOps` on every run) computes,
entry by entry and for every transform, pair of rows and admissible parameter, the closed form of the kernel
(`Kernel.entry`, spelled out by `lpq_closed_form` / `sumPower_closed_form` / `light_expansion`).  The sum-power kernel reads `x.shape[1]`: the two rows must
have the same number of features after the transform (always, for rows of two matrices given the same `mat`). -/
theorem gen_pipeline_eq_model (K : Spec ℝ) (hK : Valid K) (T : Transform ℝ) (x z : List ℝ)
    (hlen : K.isSumPower = true → (applyT T z).length = (applyT T x).length) :
    KernelOps.genEntry K T x z = entry K T x z := by
  unfold KernelOps.genEntry
  cases K with
  | sumPower q L c P => exact KernelOps.sumPower_eq T x z (hlen rfl)
  | _ => exact (KernelOps.pipeline_eq_lap_dist _ rfl _ T x z).trans (hK.entry_eq rfl T x z).symm

/-- The whole matrix returned by the regenerated chain is the matrix of closed forms (`gen_pipeline_eq_model`, entry by entry). -/
theorem gen_matrix_eq_model (K : Spec ℝ) (hK : Valid K) (T : Transform ℝ) (xs zs : List (List ℝ))
    (hlen : K.isSumPower = true → ∀ x ∈ xs, ∀ z ∈ zs, (applyT T z).length = (applyT T x).length) :
    KernelOps.genMatrix K T xs zs = matrix K T xs zs := by
  unfold KernelOps.genMatrix matrix
  refine List.map_congr_left fun x hx => List.map_congr_left fun z hz => ?_
  exact gen_pipeline_eq_model K hK T x z fun h => hlen h x hx z hz

-- non-vacuity: the guards of `gen_pipeline_eq_model` are met by concrete kernels and rows of equal length
example : Valid (.sumPower 0.7 2 0.25 2) ∧
    (applyT (.diag [2, 3]) ([1, 5] : List ℝ)).length = (applyT (.diag [2, 3]) ([4, 6] : List ℝ)).length :=
  ⟨by unfold Valid; norm_num, rfl⟩

/-- `gen_pipeline_eq_model` as an equation between functions of the two rows (no length proviso off the sum-power kernel):
a closed term, so that `rw` can use it under the binders of a sum or of `Matrix.of`. -/
theorem genEntry_eq {K : Spec ℝ} (hK : Valid K) (hs : K.isSumPower = false) (T : Transform ℝ) :
    KernelOps.genEntry K T = entry K T :=
  funext fun x => funext fun z => gen_pipeline_eq_model K hK T x z fun h => Bool.noConfusion (hs.symm.trans h)

/-- **C05, the bandwidth in the formula is the one in use.**  In every regenerated chain each read of `self.bandwidth`
comes after the call of `_adapt_bandwidth` (a pending adaptation is performed before the bandwidth enters the formula; a
value read earlier would be the stale one). -/
theorem bandwidth_read_after_adaptation :
    KernelOps.bandwidthUses.all KernelOps.BandwidthUse.readsAfterAdapt = true := by decide

/-- **C05, the Gram matrix the code's own chain computes is positive semi-definite and has the Gram consequences.**  Everything
above is stated for the closed form; through `gen_pipeline_eq_model` it holds for the value the regenerated chain of
`LpqLaplaceKernel._get_kernel_matrix_impl` (`Gen.KernelOps.lpq`) yields entry by entry: the quadratic form is non-negative for every
weight vector, any centers (repeated ones included), transform and `0 < q ≤ p ≤ 2`; the matrix is symmetric with unit diagonal
and entries in `(0, 1]`. -/
theorem gen_lpq_gram_psd {p q L : ℝ} (hq : 0 < q) (hqp : q ≤ p) (hp2 : p ≤ 2) (hL : 0 < L)
    (T : Transform ℝ) {d n : ℕ} (xs : Fin n → Fin d → ℝ) (w : Fin n → ℝ) :
    0 ≤ ∑ i, ∑ j, w i * w j * KernelOps.genEntry (.lpq p q L) T (List.ofFn (xs i)) (List.ofFn (xs j)) := by
  rw [genEntry_eq (K := .lpq p q L) ⟨hL, hq, hq.trans_le hqp⟩ rfl]
  exact C05_psd_holds p q L hq hqp hp2 hL T d n xs w

theorem gen_lpq_gram_consequences {p q L : ℝ} (hq : 0 < q) (hp : 0 < p) (hL : 0 < L) (T : Transform ℝ) (x z : List ℝ) :
    KernelOps.genEntry (.lpq p q L) T x z = KernelOps.genEntry (.lpq p q L) T z x ∧
    KernelOps.genEntry (.lpq p q L) T x x = 1 ∧
    0 < KernelOps.genEntry (.lpq p q L) T x z ∧ KernelOps.genEntry (.lpq p q L) T x z ≤ 1 := by
  have hv : Valid (.lpq p q L) := ⟨hL, hq, hp⟩
  rw [genEntry_eq hv rfl]
  exact ⟨symm _ T x z nofun, diag_one _ hv T x nofun, range _ hv T x z nofun⟩

/-- `psd_laplace` for the matrix the regenerated chain of the L2 kernel (`'l2'`) computes. -/
theorem gen_laplace_gram_psd {q L : ℝ} (hq : 0 < q) (hq2 : q ≤ 2) (hL : 0 < L) (T : Transform ℝ) {d n : ℕ}
    (xs : Fin n → Fin d → ℝ) (w : Fin n → ℝ) :
    0 ≤ ∑ i, ∑ j, w i * w j * KernelOps.genEntry (.laplace q L) T (List.ofFn (xs i)) (List.ofFn (xs j)) := by
  rw [genEntry_eq (K := .laplace q L) ⟨hL, hq⟩ rfl]
  exact psd_laplace hq hq2 hL T xs w

/-- `psd_product` for the matrix the regenerated chain of the product kernel (`'l1'`) computes. -/
theorem gen_product_gram_psd {q L : ℝ} (hq : 0 < q) (hq2 : q ≤ 2) (hL : 0 < L) (T : Transform ℝ) {d n : ℕ}
    (xs : Fin n → Fin d → ℝ) (w : Fin n → ℝ) :
    0 ≤ ∑ i, ∑ j, w i * w j * KernelOps.genEntry (.product q L) T (List.ofFn (xs i)) (List.ofFn (xs j)) := by
  rw [genEntry_eq (K := .product q L) ⟨hL, hq⟩ rfl]
  exact psd_product hq hq2 hL T xs w

open Xrfmv.Gen.Alias in
/-- **C05 aliases.** Every documented alias maps to the documented class on the CPU branch. -/
theorem alias_table :
    aliases.lookup "laplace" = some .Laplace ∧ aliases.lookup "l2" = some .Laplace ∧
    aliases.lookup "l2_high_dim" = some .LightLaplace ∧ aliases.lookup "l2_light" = some .LightLaplace ∧
    aliases.lookup "product_laplace" = some .ProductLaplace ∧ aliases.lookup "l1" = some .ProductLaplace ∧
    aliases.lookup "lpq" = some .Lpq ∧ aliases.lookup "sum_power_laplace" = some .SumPower := by
  decide +kernel

/-- **C05 aliases, parameters.** `exponent` reaches the kernels as their exponent `q`, `norm_p` as the
norm `p` of the Lpq kernel, `bandwidth` as `L`; an unknown string is rejected. -/
theorem alias_spec (a : RfmArgs ℝ) :
    specOfAlias "laplace" a = some (.laplace a.exponent a.bandwidth) ∧
    specOfAlias "l2" a = some (.laplace a.exponent a.bandwidth) ∧
    specOfAlias "l2_high_dim" a = some (.light a.exponent a.bandwidth) ∧
    specOfAlias "l2_light" a = some (.light a.exponent a.bandwidth) ∧
    specOfAlias "product_laplace" a = some (.product a.exponent a.bandwidth) ∧
    specOfAlias "l1" a = some (.product a.exponent a.bandwidth) ∧
    specOfAlias "lpq" a = some (.lpq a.normP a.exponent a.bandwidth) ∧
    specOfAlias "sum_power_laplace" a = some (.sumPower a.exponent a.bandwidth a.constMix a.power) ∧
    specOfAlias "gaussian" a = none ∧ Gen.Alias.unknownRaisesValueError = true :=
  ⟨rfl, rfl, rfl, rfl, rfl, rfl, rfl, rfl, rfl, rfl⟩

end Xrfmv.Props.C05
