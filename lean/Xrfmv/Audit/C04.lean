import Xrfmv.Props.C04
#print axioms Xrfmv.Props.C04.profile_hasDerivAt
#print axioms Xrfmv.Props.C04.radial_profile_hasDerivAt
#print axioms Xrfmv.Props.C04.sqdist_coord_hasDerivAt
#print axioms Xrfmv.Props.C04.l2_grad_partial
#print axioms Xrfmv.Props.C04.light_diag_grad_partial
#print axioms Xrfmv.Props.C04.light_none_is_l2
#print axioms Xrfmv.Props.C04.prod_grad_partial
#print axioms Xrfmv.Props.C04.sumpower_grad_partial
#print axioms Xrfmv.Props.C04.lpq_grad_partial
#print axioms Xrfmv.Props.C04.grad_linear
#print axioms Xrfmv.Props.C04.grad_per_output
#print axioms Xrfmv.Props.C04.predictor_grad_partial
#print axioms Xrfmv.Props.C04.chain_T_diag
#print axioms Xrfmv.Props.C04.predictor_diag_grad_partial
#print axioms Xrfmv.Props.C04.chain_T_full
#print axioms Xrfmv.Props.C04.model_full_transform_is_vecMul
#print axioms Xrfmv.Props.C04.self_term_zero
#print axioms Xrfmv.Props.C04.masks_fire_at_coincidence
#print axioms Xrfmv.Props.C04.l2_term_finite
#print axioms Xrfmv.Props.C04.C04_full_holds
#print axioms Xrfmv.Props.C04.gen_fgrad_eq_model
#print axioms Xrfmv.Props.C04.gen_l2_weight_eq
#print axioms Xrfmv.Props.C04.gen_forward_eq_model
#print axioms Xrfmv.Props.C04.gen_forward_masked_constant
